import MdIt.Token
/-!
# MdIt.Tree — model of `markdown_it/tree.py`: `SyntaxTreeNode` built from a token stream by bracket
matching on `nesting`, `to_tokens`, `walk`.

A leaf node keeps its token; the nodes for `token.children` are built by the same function applied
to that list (`Node.kidsOfLeaf`), exactly as `SyntaxTreeNode.__init__` does.
-/
namespace MdIt

inductive Node where
  | leaf (t : Tok)
  | nest (o c : Tok) (kids : List Node)
deriving Repr

/-- the inner `while reversed_tokens and nesting:` loop: collect tokens until the nesting sum is 0.
    Returns the collected tokens (closer last) and the remaining stream; `none` = ran out (unclosed). -/
def takeNested : List Tok → Int → List Tok → Option (List Tok × List Tok)
  | [], _, _ => none
  | t :: ts, n, acc =>
    if n + t.nesting = 0 then some ((t :: acc).reverse, ts) else takeNested ts (n + t.nesting) (t :: acc)

theorem takeNested_spec (ts : List Tok) (n : Int) (acc inner rest : List Tok)
    (h : takeNested ts n acc = some (inner, rest)) :
    inner ++ rest = acc.reverse ++ ts ∧ acc.length < inner.length := by
  fun_induction takeNested ts n acc with
  | case1 => cases h
  | case2 t ts n acc _ =>
    cases h
    simp
  | case3 t ts n acc _ ih =>
    have := ih h
    simp only [List.reverse_cons, List.append_assoc, List.singleton_append, List.length_cons] at this
    exact ⟨this.1, by omega⟩

/-- `SyntaxTreeNode._set_children_from_tokens` -/
def buildTree : List Tok → Except PyErr (List Node)
  | [] => .ok []
  | t :: rest =>
    if t.nesting = 0 then
      match buildTree rest with
      | .ok r => .ok (.leaf t :: r)
      | .error e => .error e
    else if t.nesting ≠ 1 then .error (.valueError "Invalid token nesting")
    else
      match h : takeNested rest 1 [] with
      | none => .error (.valueError "unclosed tokens")
      | some (innerC, rest') =>
        match buildTree innerC.dropLast with
        | .error e => .error e
        | .ok kids =>
          match buildTree rest' with
          | .error e => .error e
          | .ok r =>
            match innerC.getLast? with
            | some c => .ok (.nest t c kids :: r)
            | none => .error .assertion
termination_by l => l.length
decreasing_by
  all_goals simp_wf
  · have := takeNested_spec rest 1 [] innerC rest' h
    have hl := congrArg List.length this.1
    simp at hl this
    omega
  · have := takeNested_spec rest 1 [] innerC rest' h
    have hl := congrArg List.length this.1
    simp at hl this
    omega

mutual
  /-- `SyntaxTreeNode.to_tokens` -/
  def Node.toTokens : Node → List Tok
    | .leaf t => [t]
    | .nest o c kids => o :: (Node.toTokensList kids ++ [c])
  def Node.toTokensList : List Node → List Tok
    | [] => []
    | n :: ns => n.toTokens ++ Node.toTokensList ns
end

/-- the token a node's properties are read from (`_attribute_token`) -/
def Node.tok : Node → Tok
  | .leaf t => t
  | .nest o _ _ => o

mutual
  /-- `SyntaxTreeNode.walk` (depth first, node before its children), without descending into
      `token.children` of leaves -/
  def Node.walk : Node → List Node
    | .leaf t => [.leaf t]
    | .nest o c kids => .nest o c kids :: Node.walkList kids
  def Node.walkList : List Node → List Node
    | [] => []
    | n :: ns => n.walk ++ Node.walkList ns
end

/-- child nodes of a leaf: built from `token.children` when that list is truthy -/
def Node.kidsOfLeaf (t : Tok) : Except PyErr (List Node) :=
  match t.children with
  | some (c :: cs) => buildTree (c :: cs)
  | _ => .ok []

/-- depth bookkeeping: every nesting is -1, 0 or 1, the running depth never goes negative and ends at 0 -/
def balancedFrom : Int → List Tok → Bool
  | d, [] => d == 0
  | d, t :: ts =>
    (t.nesting == 0 || t.nesting == 1 || t.nesting == -1) && (0 ≤ d + t.nesting) && balancedFrom (d + t.nesting) ts

theorem balancedFrom_append (a b : List Tok) : ∀ (d e : Int), balancedFrom e a = true → 0 ≤ d →
    balancedFrom (d + e) (a ++ b) = balancedFrom d b := by
  induction a with
  | nil =>
    intro d e h _
    simp only [balancedFrom, beq_iff_eq] at h
    subst h; simp
  | cons t ts ih =>
    intro d e h hd
    simp only [balancedFrom, Bool.and_eq_true, decide_eq_true_eq] at h
    obtain ⟨⟨h1, h2⟩, h3⟩ := h
    simp only [List.cons_append, balancedFrom]
    have e1 : d + e + t.nesting = d + (e + t.nesting) := by omega
    rw [e1, ih d (e + t.nesting) h3 hd, h1]
    have : decide (0 ≤ d + (e + t.nesting)) = true := by simp; omega
    rw [this]; simp

end MdIt
