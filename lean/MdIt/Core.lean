import MdIt.Token
/-!
# MdIt.Core — core-chain rules that post-process inline children
(`rules_core/text_join.py`, `rules_core/replacements.py`, `replaceAt` of `smartquotes.py`)

The regular-expression substitutions of `replacements.py` are parameters (`sub : String → String`):
the theorems about the *shape* of the stream hold for every substitution.
-/
namespace MdIt

def Tok.setType (t : Tok) (ty : String) : Tok :=
  match t with
  | .mk _ tag n a m l c co mu i md b h => .mk ty tag n a m l c co mu i md b h

def Tok.setContent (t : Tok) (s : String) : Tok :=
  match t with
  | .mk ty tag n a m l c _ mu i md b h => .mk ty tag n a m l c s mu i md b h

def Tok.setChildren (t : Tok) (cs : Option (List Tok)) : Tok :=
  match t with
  | .mk ty tag n a m l _ co mu i md b h => .mk ty tag n a m l cs co mu i md b h

/-- the accumulation step of `_join`: merge into the previous `text` token or append -/
def joinPush (acc : List Tok) (t : Tok) : List Tok :=
  match acc.getLast? with
  | some last =>
    if t.type == "text" && last.type == "text" then acc.dropLast ++ [last.setContent (last.content ++ t.content)]
    else acc ++ [t]
  | none => acc ++ [t]

mutual
  /-- `_join(children)` of `rules_core/text_join.py`: `text_special` → `text`, image descriptions
      joined recursively, adjacent `text` tokens merged -/
  def joinToks : List Tok → List Tok → List Tok
    | acc, [] => acc
    | acc, t :: rest => joinToks (joinPush acc (joinOne t)) rest
  /-- per-token part: retype, and recurse into a non-empty image description -/
  def joinOne : Tok → Tok
    | .mk ty tag n a m l c co mu i md b h =>
      let ty' := if ty == "text_special" then "text" else ty
      if ty' == "image" then .mk ty' tag n a m l (joinOpt c) co mu i md b h
      else .mk ty' tag n a m l c co mu i md b h
  def joinOpt : Option (List Tok) → Option (List Tok)
    | none => none
    | some [] => some []                       -- `and child_token.children` is falsy: untouched
    | some (c :: cs) => some (joinToks [] (c :: cs))
end

/-- `text_join(state)`: every inline token's children become `_join(children or [])` -/
def textJoin (ts : List Tok) : List Tok :=
  ts.map (fun t => if t.type == "inline" then t.setChildren (some (joinToks [] (t.children.getD []))) else t)

/-! ### replacements -/

/-- `replace_scoped` / `replace_rare`: one pass over the children with the autolink counter
    (`-1` on an `auto` link_open, `+1` on the close); `sub` is the chain of regex substitutions -/
def replacePass (sub : String → String) : Int → List Tok → List Tok
  | _, [] => []
  | k, t :: rest =>
    let t' := if t.type == "text" && k == 0 then t.setContent (sub t.content) else t
    let k1 := if t.type == "link_open" && t.info == "auto" then k - 1 else k
    let k2 := if t.type == "link_close" && t.info == "auto" then k1 + 1 else k1
    t' :: replacePass sub k2 rest

/-- `replace(state)` with the typographer on: for every inline token with children, the scoped pass
    if its content matches `SCOPED_ABBR_RE`, then the rare pass if it matches `RARE_RE` -/
def replacements (scopedHit rareHit : String → Bool) (subScoped subRare : String → String)
    (ts : List Tok) : List Tok :=
  ts.map (fun t =>
    if t.type == "inline" then
      match t.children with
      | none => t
      | some cs =>
        let cs1 := if scopedHit t.content then replacePass subScoped 0 cs else cs
        let cs2 := if rareHit t.content then replacePass subRare 0 cs1 else cs1
        t.setChildren (some cs2)
    else t)

/-- `replaceAt(string, index, ch)` -/
def replaceAt (s : List Char) (index : Nat) (ch : List Char) : List Char :=
  s.take index ++ ch ++ s.drop (index + 1)

/-- two tokens agree on everything except `content`, and agree on `content` too unless they are `text` -/
def SameButText (a b : Tok) : Prop :=
  a.type = b.type ∧ a.tag = b.tag ∧ a.nesting = b.nesting ∧ a.attrs = b.attrs ∧ a.map = b.map ∧ a.level = b.level
  ∧ a.markup = b.markup ∧ a.info = b.info ∧ a.metaD = b.metaD ∧ a.block = b.block ∧ a.hidden = b.hidden
  ∧ (a.type ≠ "text" → a = b)

/-- two lists of equal length related element by element -/
inductive AllRel {α} (R : α → α → Prop) : List α → List α → Prop where
  | nil : AllRel R [] []
  | cons {a b l1 l2} : R a b → AllRel R l1 l2 → AllRel R (a :: l1) (b :: l2)

theorem AllRel.length_eq {α} {R : α → α → Prop} {l1 l2 : List α} (h : AllRel R l1 l2) : l1.length = l2.length := by
  induction h with
  | nil => rfl
  | cons _ _ ih => simp [ih]

theorem AllRel.refl {α} {R : α → α → Prop} (hR : ∀ a, R a a) : ∀ l : List α, AllRel R l l
  | [] => .nil
  | a :: l => .cons (hR a) (AllRel.refl hR l)

theorem AllRel.trans {α} {R : α → α → Prop} (hR : ∀ a b c, R a b → R b c → R a c) {l1 l2 l3 : List α}
    (h12 : AllRel R l1 l2) (h23 : AllRel R l2 l3) : AllRel R l1 l3 := by
  induction h12 generalizing l3 with
  | nil => cases h23; exact .nil
  | cons hab _ ih =>
    cases h23 with
    | cons hbc t23 => exact .cons (hR _ _ _ hab hbc) (ih t23)

theorem AllRel.of_getElem? {α} {R : α → α → Prop} : ∀ (l1 l2 : List α), l1.length = l2.length →
    (∀ (j : Nat) a b, l1[j]? = some a → l2[j]? = some b → R a b) → AllRel R l1 l2
  | [], [], _, _ => .nil
  | [], _ :: _, hl, _ => nomatch hl
  | _ :: _, [], hl, _ => nomatch hl
  | x :: xs, y :: ys, hl, h =>
    .cons (h 0 x y rfl rfl) (AllRel.of_getElem? xs ys (Nat.succ.inj hl) fun j a b ha hb => h (j + 1) a b ha hb)

theorem SameButText.refl (t : Tok) : SameButText t t :=
  ⟨rfl, rfl, rfl, rfl, rfl, rfl, rfl, rfl, rfl, rfl, rfl, fun _ => rfl⟩

theorem SameButText.trans (a b c : Tok) (h1 : SameButText a b) (h2 : SameButText b c) : SameButText a c := by
  obtain ⟨a1, a2, a3, a4, a5, a6, a7, a8, a9, a10, a11, a12⟩ := h1
  obtain ⟨b1, b2, b3, b4, b5, b6, b7, b8, b9, b10, b11, b12⟩ := h2
  refine ⟨a1.trans b1, a2.trans b2, a3.trans b3, a4.trans b4, a5.trans b5, a6.trans b6, a7.trans b7,
    a8.trans b8, a9.trans b9, a10.trans b10, a11.trans b11, ?_⟩
  intro hne
  rw [a12 hne]
  exact b12 (a1 ▸ hne)

theorem SameButText.setContent (t : Tok) (s : String) (h : t.type = "text") : SameButText t (t.setContent s) := by
  cases t
  exact ⟨rfl, rfl, rfl, rfl, rfl, rfl, rfl, rfl, rfl, rfl, rfl, fun hne => absurd h hne⟩

end MdIt
