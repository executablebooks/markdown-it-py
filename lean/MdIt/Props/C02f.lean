import MdIt.Proofs.ListFacts
import MdIt.Props.C02e
import MdIt.Props.C02
import MdIt.Props.C01f
import MdIt.Proofs.InlineLoop
import MdIt.Props.C10e
/-!
# C02 (continued) — the inline stream with emphasis is balanced, levelled, and builds a tree

The post-processing of emphasis turns the delimiter pairs `processDelimiters` formed into opening and closing tokens; because every
pair has its opener before its closer, a closer closes one opener, and no delimiter is in two pairs (`C02e.pairs_facts`), every step
of the loop turns two untouched tokens of a balanced stream into an opening token and a later closing token, which keeps it balanced.
The tokenize loop keeps `BalD` (the stream so far is balanced, its text tokens have nesting 0, every delimiter record is fresh and
points at a nesting-0 token, at increasing positions): a rule described by `C01.Leaf` keeps it if its `text` steps and its steps with
a record have nesting 0; without `autolink` no token opens or closes at all (`ZeroD`).
-/
namespace MdIt.C02f
open MdIt MdIt.C02

theorem balanced_modify_same (f : Tok → Tok) (hf : ∀ t, (f t).nesting = t.nesting) :
    ∀ (ts : List Tok) (p : Nat) (d : Int), balancedFrom d (ts.modify p f) = balancedFrom d ts := by
  intro ts
  induction ts with
  | nil => intro p d; simp
  | cons t rest ih =>
    intro p d
    cases p with
    | zero => simp only [List.modify_zero_cons, balancedFrom, hf]
    | succ k => simp only [List.modify_succ_cons, balancedFrom, ih]

theorem balanced_close (g : Tok → Tok) (hg : ∀ t, (g t).nesting = -1) :
    ∀ (ts : List Tok) (b : Nat) (d : Int) (t : Tok), ts[b]? = some t → t.nesting = 0 → 0 ≤ d → balancedFrom d ts = true →
      balancedFrom (d + 1) (ts.modify b g) = true := by
  intro ts
  induction ts with
  | nil => intro b d t h; simp at h
  | cons u rest ih =>
    intro b d t hb ht hd hbal
    simp only [balancedFrom, Bool.and_eq_true, decide_eq_true_eq] at hbal
    obtain ⟨⟨h1, h2⟩, h3⟩ := hbal
    cases b with
    | zero =>
      simp only [List.getElem?_cons_zero, Option.some.injEq] at hb
      subst hb
      simp only [List.modify_zero_cons, balancedFrom, hg]
      rw [ht] at h3
      have e : d + 1 + -1 = d + 0 := by omega
      rw [e, h3]
      simp; omega
    | succ k =>
      simp only [List.getElem?_cons_succ] at hb
      simp only [List.modify_succ_cons, balancedFrom]
      have := ih k (d + u.nesting) t hb ht h2 h3
      have e : d + 1 + u.nesting = d + u.nesting + 1 := by omega
      rw [e, this, h1]
      simp; omega

theorem balanced_set_pair (f g : Tok → Tok) (hf : ∀ t, (f t).nesting = 1) (hg : ∀ t, (g t).nesting = -1) :
    ∀ (ts : List Tok) (a b : Nat) (d : Int) (ta tb : Tok), ts[a]? = some ta → ts[b]? = some tb → ta.nesting = 0 → tb.nesting = 0 → a < b →
      balancedFrom d ts = true → balancedFrom d ((ts.modify a f).modify b g) = true := by
  intro ts
  induction ts with
  | nil => intro a b d ta tb h; simp at h
  | cons u rest ih =>
    intro a b d ta tb ha hb hta htb hab hbal
    have hbal' := hbal
    simp only [balancedFrom, Bool.and_eq_true, decide_eq_true_eq] at hbal
    obtain ⟨⟨h1, h2⟩, h3⟩ := hbal
    cases b with
    | zero => omega
    | succ b' =>
      simp only [List.getElem?_cons_succ] at hb
      cases a with
      | zero =>
        simp only [List.getElem?_cons_zero, Option.some.injEq] at ha
        subst ha
        simp only [List.modify_zero_cons, List.modify_succ_cons, balancedFrom, hf]
        rw [hta] at h2 h3
        have := balanced_close g hg rest b' (d + 0) tb hb htb h2 h3
        have e : d + 1 = d + 0 + 1 := by omega
        rw [e, this]
        simp; omega
      | succ a' =>
        simp only [List.getElem?_cons_succ] at ha
        simp only [List.modify_succ_cons, balancedFrom]
        rw [ih a' b' (d + u.nesting) ta tb ha hb hta htb (by omega) h3, h1]
        simp; exact h2

theorem balanced_zeros : ∀ (ts : List Tok), (∀ t ∈ ts, t.nesting = 0) → balancedFrom 0 ts = true := by
  intro ts
  induction ts with
  | nil => intro _; rfl
  | cons t rest ih =>
    intro h
    have ht := h t (by simp)
    simp only [balancedFrom, ht]
    rw [show (0 : Int) + 0 = 0 by rfl, ih (fun u hu => h u (by simp [hu]))]
    rfl

/-- what `_postProcess` relies on: the delimiter records point at distinct, increasing token positions and their pairs are as
    `processDelimiters` leaves them -/
structure PostHyp (D : List Delim) (n : Nat) : Prop where
  tokBound : ∀ (j : Nat) (d : Delim), D[j]? = some d → 0 ≤ d.token ∧ d.token < (n : Int)
  tokInc : ∀ (j1 j2 : Nat) (d1 d2 : Delim), D[j1]? = some d1 → D[j2]? = some d2 → j1 < j2 → d1.token < d2.token
  ends : ∀ (j : Nat) (d : Delim), D[j]? = some d → d.end_ = -1 ∨ ((j : Int) < d.end_ ∧ d.end_ < (D.length : Int))
  inj : ∀ (o1 o2 : Nat) (d1 d2 : Delim), D[o1]? = some d1 → D[o2]? = some d2 → 0 ≤ d1.end_ → d1.end_ = d2.end_ → o1 = o2
  noBoth : ∀ (o o2 : Nat) (d d2 : Delim), D[o]? = some d → D[o2]? = some d2 → 0 ≤ d.end_ → 0 ≤ d2.end_ → d2.end_ ≠ (o : Int)

/-- position `p` holds a token of nesting 0: not yet turned into an opening or closing token (its content may have changed) -/
def Untouched (ts : List Tok) (p : Int) : Prop := ∃ t, ts[p.toNat]? = some t ∧ t.nesting = 0

/-- the token list when the loop of `_postProcess` stands at delimiter `i` (it walks down): the tokens of the delimiters up to `i` (`u1`)
    and of the closers they are paired with (`u2`) are still `Untouched` -/
structure PostInv (D : List Delim) (n : Nat) (i : Int) (ts : List Tok) : Prop where
  len : ts.length = n
  bal : balancedFrom 0 ts = true
  text : ∀ t ∈ ts, t.type = "text" → t.nesting = 0
  u1 : ∀ (j : Nat) (d : Delim), (j : Int) ≤ i → D[j]? = some d → Untouched ts d.token
  u2 : ∀ (j : Nat) (d de : Delim), (j : Int) ≤ i → D[j]? = some d → 0 ≤ d.end_ → D[d.end_.toNat]? = some de → Untouched ts de.token

theorem PostInv.down {D n i ts} (h : PostInv D n i ts) (i' : Int) (hi : i' ≤ i) : PostInv D n i' ts :=
  ⟨h.len, h.bal, h.text, fun j d hj hd => h.u1 j d (by omega) hd, fun j d de hj hd he hde => h.u2 j d de (by omega) hd he hde⟩

theorem untouched_modify_other (ts : List Tok) (p q : Int) (f : Tok → Tok) (hp : 0 ≤ p) (hq : 0 ≤ q) (hne : p ≠ q) (h : Untouched ts q) :
    Untouched (ts.modify p.toNat f) q := by
  obtain ⟨t, h1, h2⟩ := h
  refine ⟨t, ?_, h2⟩
  rw [List.getElem?_modify]
  have : ¬ p.toNat = q.toNat := by omega
  simp [this, h1]

theorem untouched_modify_same (ts : List Tok) (p q : Int) (f : Tok → Tok) (hf : ∀ t, (f t).nesting = t.nesting) (h : Untouched ts q) :
    Untouched (ts.modify p.toNat f) q := by
  obtain ⟨t, h1, h2⟩ := h
  rw [Untouched, List.getElem?_modify, h1]
  simp only [Functor.map, Option.map_some]
  split
  · exact ⟨f t, rfl, by rw [hf]; exact h2⟩
  · exact ⟨t, rfl, h2⟩

theorem PostHyp.tok_ne {D n} (hD : PostHyp D n) (j1 j2 : Nat) (d1 d2 : Delim) (h1 : D[j1]? = some d1) (h2 : D[j2]? = some d2) (hne : j1 ≠ j2) :
    d1.token ≠ d2.token := by
  rcases Nat.lt_or_ge j1 j2 with h | h
  · have := hD.tokInc j1 j2 d1 d2 h1 h2 h; omega
  · have := hD.tokInc j2 j1 d2 d1 h2 h1 (by omega); omega

theorem PostHyp.tok_lt {D n} (hD : PostHyp D n) (j1 j2 : Nat) (d1 d2 : Delim) (h1 : D[j1]? = some d1) (h2 : D[j2]? = some d2)
    (hlt : d1.token < d2.token) : j1 < j2 := by
  rcases Nat.lt_or_ge j1 j2 with h | h
  · exact h
  · exfalso
    rcases Nat.lt_or_ge j2 j1 with h' | h'
    · have := hD.tokInc j2 j1 d2 d1 h2 h1 h'; omega
    · have : j1 = j2 := by omega
      subst this; rw [h1] at h2; cases h2; omega

theorem PostHyp.pairs_apart {D n} (hD : PostHyp D n) {o1 o2 : Nat} {d1 d2 de1 de2 : Delim} (h1 : D[o1]? = some d1) (h2 : D[o2]? = some d2)
    (he1 : 0 ≤ d1.end_) (he2 : 0 ≤ d2.end_) (hde1 : D[d1.end_.toNat]? = some de1) (hde2 : D[d2.end_.toNat]? = some de2) (hne : o1 ≠ o2) :
    d1.token ≠ d2.token ∧ d1.token ≠ de2.token ∧ de1.token ≠ d2.token ∧ de1.token ≠ de2.token := by
  refine ⟨hD.tok_ne o1 o2 d1 d2 h1 h2 hne, hD.tok_ne o1 d2.end_.toNat d1 de2 h1 hde2 ?_, hD.tok_ne d1.end_.toNat o2 de1 d2 hde1 h2 ?_,
    hD.tok_ne d1.end_.toNat d2.end_.toNat de1 de2 hde1 hde2 ?_⟩
  · have := hD.noBoth o1 o2 d1 d2 h1 h2 he1 he2; omega
  · have := hD.noBoth o2 o1 d2 d1 h2 h1 he2 he1; omega
  · have : d1.end_ ≠ d2.end_ := fun e => hne (hD.inj o1 o2 d1 d2 h1 h2 he1 e); omega

theorem PostHyp.end_nonneg {D n} (hD : PostHyp D n) {j : Nat} {d : Delim} (h : D[j]? = some d) (hne : d.end_ ≠ -1) : 0 ≤ d.end_ := by
  rcases hD.ends j d h with h1 | h1
  · exact absurd h1 hne
  · omega

theorem PostInv.same {D n i ts} (h : PostInv D n i ts) (p : Nat) (f : Tok → Tok) (hfn : ∀ t, (f t).nesting = t.nesting)
    (hft : ∀ t, (f t).type = t.type) : PostInv D n i (ts.modify p f) := by
  refine ⟨by rw [List.length_modify]; exact h.len, by rw [balanced_modify_same f hfn]; exact h.bal,
    forall_mem_modify (fun x hx hty => by rw [hfn]; exact hx (hft x ▸ hty)) p h.text, ?_, ?_⟩
  · intro j d hj hd
    exact Int.toNat_natCast p ▸ untouched_modify_same ts p d.token f hfn (h.u1 j d hj hd)
  · intro j d de hj hd he hde
    exact Int.toNat_natCast p ▸ untouched_modify_same ts p de.token f hfn (h.u2 j d de hj hd he hde)

theorem post_pair {D n i ts} (hD : PostHyp D n) (h : PostInv D n i ts) (hi0 : 0 ≤ i) (sd ed : Delim) (hsd : D[i.toNat]? = some sd)
    (he : 0 ≤ sd.end_) (hed : D[sd.end_.toNat]? = some ed) (f g : Tok → Tok) (hf1 : ∀ t, (f t).nesting = 1) (hf2 : ∀ t, (f t).type ≠ "text")
    (hg1 : ∀ t, (g t).nesting = -1) (hg2 : ∀ t, (g t).type ≠ "text") :
    PostInv D n (i - 1) ((ts.modify sd.token.toNat f).modify ed.token.toNat g) := by
  have hends := hD.ends i.toNat sd hsd
  have hie : (i.toNat : Int) < sd.end_ := by rcases hends with h1 | h1 <;> omega
  have hlt : i.toNat < sd.end_.toNat := by omega
  have hab : sd.token < ed.token := hD.tokInc i.toNat sd.end_.toNat sd ed hsd hed hlt
  have hba := hD.tokBound i.toNat sd hsd
  have hbb := hD.tokBound sd.end_.toNat ed hed
  obtain ⟨ta, hta1, hta2⟩ := h.u1 i.toNat sd (by omega) hsd
  obtain ⟨tb, htb1, htb2⟩ := h.u2 i.toNat sd ed (by omega) hsd he hed
  have keep : ∀ q : Int, 0 ≤ q → q ≠ sd.token → q ≠ ed.token → Untouched ts q →
      Untouched ((ts.modify sd.token.toNat f).modify ed.token.toNat g) q := fun q hq h1 h2 hu =>
    untouched_modify_other _ _ _ g hbb.1 hq (Ne.symm h2) (untouched_modify_other _ _ _ f hba.1 hq (Ne.symm h1) hu)
  refine ⟨by rw [List.length_modify, List.length_modify]; exact h.len, ?_, ?_, ?_, ?_⟩
  · exact balanced_set_pair f g hf1 hg1 ts sd.token.toNat ed.token.toNat 0 ta tb hta1 htb1 hta2 htb2 (by omega) h.bal
  · exact forall_mem_modify (fun x _ hty => absurd hty (hg2 x)) _ (forall_mem_modify (fun x _ hty => absurd hty (hf2 x)) _ h.text)
  · intro j d hj hd
    exact keep _ (hD.tokBound j d hd).1 (hD.tok_ne j i.toNat d sd hd hsd (by omega)) (hD.tok_ne j sd.end_.toNat d ed hd hed (by omega))
      (h.u1 j d (by omega) hd)
  · intro j d de hj hd hde0 hde
    obtain ⟨_, _, n3, n4⟩ := hD.pairs_apart hd hsd hde0 he hde hed (by omega)
    exact keep _ (hD.tokBound _ de hde).1 n3 n4 (h.u2 j d de (by omega) hd hde0 hde)

theorem PostInv.emph {D n i ts} (hD : PostHyp D n) (h : PostInv D n i ts) (hi0 : 0 ≤ i) {sd ed : Delim} (hsd : D[i.toNat]? = some sd)
    (hne : sd.end_ ≠ -1) (hed : D[sd.end_.toNat]? = some ed) (strong : Bool) (mk : String) :
    PostInv D n (i - 1) ((ts.modify sd.token.toNat (fun t => t.setEmph (if strong then "strong_open" else "em_open") (if strong then "strong" else "em") 1 mk)).modify
      ed.token.toNat (fun t => t.setEmph (if strong then "strong_close" else "em_close") (if strong then "strong" else "em") (-1) mk)) :=
  post_pair hD h hi0 sd ed hsd (hD.end_nonneg hsd hne) hed _ _ (fun t => Tok.setEmph_nesting t _ _ _ _)
    (fun t => by rw [Tok.setEmph_type]; cases strong <;> decide) (fun t => Tok.setEmph_nesting t _ _ _ _)
    (fun t => by rw [Tok.setEmph_type]; cases strong <;> decide)

theorem emphPost_inv (D : List Delim) (n : Nat) (hD : PostHyp D n) : ∀ (fuel : Nat) (i : Int) (ts : List Tok), PostInv D n i ts →
    (emphPostGo D fuel i ts).length = n ∧ balancedFrom 0 (emphPostGo D fuel i ts) = true
      ∧ ∀ t ∈ emphPostGo D fuel i ts, t.type = "text" → t.nesting = 0 := by
  intro fuel i ts h
  obtain ⟨i', h'⟩ := emphPostGo_ind D (PostInv D n) (fun _ i' _ hi h => h.down i' hi)
    (fun i ts sd ed strong mk hi0 hsd hne hed h => h.emph hD hi0 hsd hne hed strong mk)
    (fun _ _ p h => h.same p _ (fun t => Tok.setContent_nesting t _) (fun t => Tok.setContent_type t _)) fuel i ts h
  exact ⟨h'.len, h'.bal, h'.text⟩

def BalD (s : IState) : Prop :=
  balancedFrom 0 s.tokens = true
  ∧ (∀ t ∈ s.tokens, t.type = "text" → t.nesting = 0)
  ∧ (∀ d ∈ s.delimiters, d.end_ = -1 ∧ 0 ≤ d.token ∧ Untouched s.tokens d.token)
  ∧ s.delimiters.Pairwise (fun a b => a.token < b.token)

theorem BalD.bal {s : IState} (h : BalD s) : balancedFrom 0 s.tokens = true := h.1
theorem BalD.text {s : IState} (h : BalD s) : ∀ t ∈ s.tokens, t.type = "text" → t.nesting = 0 := h.2.1
theorem BalD.recs {s : IState} (h : BalD s) : ∀ d ∈ s.delimiters, d.end_ = -1 ∧ 0 ≤ d.token ∧ Untouched s.tokens d.token := h.2.2.1
theorem BalD.sorted {s : IState} (h : BalD s) : s.delimiters.Pairwise (fun a b => a.token < b.token) := h.2.2.2

theorem balD_eq (s x : IState) (ht : x.tokens = s.tokens) (hd : x.delimiters = s.delimiters) (h : BalD s) : BalD x := by
  unfold BalD at *; rw [ht, hd]; exact h

theorem untouched_append {ts new : List Tok} {p : Int} (h : Untouched ts p) : Untouched (ts ++ new) p := by
  obtain ⟨t, ht, hn⟩ := h
  exact ⟨t, by rw [List.getElem?_append_left (getElem?_lt ht)]; exact ht, hn⟩

theorem balD_append (s x : IState) (new : List Tok) (recs : List Delim) (hx : x.tokens = s.tokens ++ new)
    (hd : x.delimiters = s.delimiters ++ recs) (hb : balancedFrom 0 new = true) (ht : ∀ t ∈ new, t.type = "text" → t.nesting = 0)
    (hr : ∀ d ∈ recs, d.end_ = -1 ∧ ∃ i : Nat, d.token = ((s.tokens.length + i : Nat) : Int) ∧ ∃ t, new[i]? = some t ∧ t.nesting = 0)
    (hp : recs.Pairwise (fun a b => a.token < b.token)) (h : BalD s) : BalD x := by
  obtain ⟨h1, h2, h3, h4⟩ := h
  refine ⟨?_, ?_, ?_, ?_⟩
  · rw [hx]
    have := balancedFrom_append s.tokens new 0 0 h1 (Int.le_refl 0)
    simp only [Int.add_zero] at this
    rw [this]; exact hb
  · intro t htm
    rw [hx, List.mem_append] at htm
    rcases htm with htm | htm
    · exact h2 t htm
    · exact ht t htm
  · intro d hdm
    rw [hd, List.mem_append] at hdm
    rcases hdm with hdm | hdm
    · obtain ⟨a, b, c⟩ := h3 d hdm
      exact ⟨a, b, by rw [hx]; exact untouched_append c⟩
    · obtain ⟨a, i, e, t, hi, hn⟩ := hr d hdm
      refine ⟨a, by omega, t, ?_, hn⟩
      rw [hx, e, Int.toNat_natCast, List.getElem?_append_right (Nat.le_add_right _ _), Nat.add_sub_cancel_left]; exact hi
  · rw [hd, List.pairwise_append]
    refine ⟨h4, hp, fun a ha b hb' => ?_⟩
    obtain ⟨_, _, t, hta, _⟩ := h3 a ha
    obtain ⟨_, i, e, _⟩ := hr b hb'
    have := getElem?_lt hta
    omega

theorem balD_pushPending (s : IState) (h : BalD s) : BalD s.pushPending :=
  balD_append s s.pushPending [mkInlineTok "text" "" 0 s.pendingLevel (String.ofList s.pending) "" ""] [] rfl (List.append_nil _).symm rfl
    (by intro t ht _; rw [List.mem_singleton] at ht; subst ht; rfl) nofun .nil h

theorem push_tokens0 (s : IState) (ty tag c m i : String) :
    ∃ extra, (s.push ty tag 0 c m i).tokens = s.tokens ++ extra ∧ (∀ t ∈ extra, t.nesting = 0) ∧ extra ≠ []
      ∧ (s.push ty tag 0 c m i).delimiters = s.delimiters := by
  rw [push_eq]
  refine ⟨_, List.append_assoc _ _ _, fun t ht => ?_, by simp, rfl⟩
  rw [List.mem_append, List.mem_singleton] at ht
  rcases ht with ht | rfl
  · rw [(mem_flushed.1 ht).2]; rfl
  · rfl

open MdIt.C01

/-- `Leaf` says that the script closes what it opens, and `opRecs` that each record points at the token of its own step -/
theorem keepsB_of_leaf {T r} (h : Leaf T r) (hT : ∀ s op, T s op → op.type = "text" ∨ op.delim ≠ none → op.nesting = 0) : KeepsI BalD r := by
  intro s silent hb a hr
  obtain ⟨ops, pre, d⟩ := h.did hr
  have hpre : ∀ t ∈ pre, t.nesting = 0 := fun t ht => by obtain ⟨_, _, rfl⟩ := d.flush t ht; rfl
  refine balD_append s a.2 _ _ d.app.tokens d.app.delimiters ?_ ?_ ?_ (opRecs_pairwise _ _) hb
  · have := balancedFrom_append pre (opToks s.level ops) 0 0 (balanced_zeros pre hpre) (Int.le_refl 0)
    rw [Int.add_zero] at this
    rw [this, balancedFrom_opToks]; exact d.bal
  · intro t ht hty
    rcases List.mem_append.1 ht with ht | ht
    · exact hpre t ht
    · obtain ⟨op, hop, l', rfl⟩ := mem_opToks ht
      rw [POp.tok_nesting]; exact hT s op (d.steps op hop) (.inl (POp.tok_type op l' ▸ hty))
  · intro x hx
    obtain ⟨j, op, dr, hj, hdr, rfl⟩ := mem_opRecs hx
    obtain ⟨l', hl'⟩ := opToks_getElem? ops j s.level hj
    refine ⟨rfl, pre.length + j, congrArg Nat.cast (Nat.add_assoc _ _ _), op.tok l', ?_, ?_⟩
    · rw [List.getElem?_append_right (Nat.le_add_right _ _), Nat.add_sub_cancel_left]; exact hl'
    · rw [POp.tok_nesting]; exact hT s op (d.steps op (List.mem_of_getElem? hj)) (.inr (by rw [hdr]; nofun))

theorem balD_token_lt (s : IState) (h : BalD s) (d : Delim) (hd : d ∈ s.delimiters) : d.end_ = -1 ∧ 0 ≤ d.token ∧ d.token < (s.tokens.length : Int) := by
  obtain ⟨a, b, t, ht, _⟩ := h.recs d hd
  have := getElem?_lt ht
  exact ⟨a, b, by omega⟩

theorem balD_init (src : List Char) : BalD (IState.init src) :=
  ⟨rfl, fun _ ht => (by cases ht), fun _ hd => (by cases hd), List.Pairwise.nil⟩

theorem pairwise_get {α} {R : α → α → Prop} {l : List α} (h : l.Pairwise R) (i j : Nat) (a b : α) (hi : l[i]? = some a) (hj : l[j]? = some b)
    (hij : i < j) : R a b := by
  rw [List.pairwise_iff_getElem] at h
  have h1 := getElem?_lt hi
  have h2 := getElem?_lt hj
  have := h i j h1 h2 hij
  rw [List.getElem?_eq_getElem h1] at hi; rw [List.getElem?_eq_getElem h2] at hj
  cases hi; cases hj; exact this

theorem laminar_of_balD (s : IState) (h : BalD s) : C02e.Laminar (processDelims s.delimiters) :=
  (C02e.pairs_laminar s.delimiters (fun d hd => by rw [(balD_token_lt s h d hd).1]; decide) (fun d hd => (balD_token_lt s h d hd).2.1)).2.1

theorem postHyp_of_balD (s : IState) (h : BalD s) : PostHyp (processDelims s.delimiters) s.tokens.length := by
  have h2 := balD_token_lt s h
  have h3 := h.sorted
  obtain ⟨hsh, hends, hinj, hnb⟩ := C02e.pairs_facts s.delimiters (fun d hd => (h2 d hd).1) (fun d hd => (h2 d hd).2.1)
  refine ⟨?_, ?_, ?_, hinj, hnb⟩
  · intro j d hd
    obtain ⟨d0, a1, _, a3, _, _⟩ := hsh.2 j d hd
    have := h2 d0 (List.mem_of_getElem? a1)
    rw [a3]; exact ⟨this.2.1, this.2.2⟩
  · intro j1 j2 d1 d2 hd1 hd2 hlt
    obtain ⟨p1, a1, _, a3, _, _⟩ := hsh.2 j1 d1 hd1
    obtain ⟨p2, b1, _, b3, _, _⟩ := hsh.2 j2 d2 hd2
    rw [a3, b3]
    exact pairwise_get h3 j1 j2 p1 p2 a1 b1 hlt
  · intro j d hd
    rcases hends j d hd with h' | h'
    · exact .inl h'
    · exact .inr ⟨h'.1, by rw [hsh.1]; exact h'.2⟩

theorem postInv_of_balD (s2 : IState) (h2 : BalD s2) :
    PostInv (processDelims s2.delimiters) s2.tokens.length (((processDelims s2.delimiters).length : Int) - 1) s2.tokens := by
  have hfacts := C02e.pairs_facts s2.delimiters (fun d hd => (balD_token_lt s2 h2 d hd).1) (fun d hd => (balD_token_lt s2 h2 d hd).2.1)
  have hsh := hfacts.1
  have unt : ∀ (j : Nat) (d : Delim), (processDelims s2.delimiters)[j]? = some d → Untouched s2.tokens d.token := by
    intro j d hd
    obtain ⟨d0, a1, _, a3, _, _⟩ := hsh.2 j d hd
    rw [a3]; exact (h2.recs d0 (List.mem_of_getElem? a1)).2.2
  exact ⟨rfl, h2.bal, h2.text, fun j d _ hd => unt j d hd, fun j d de _ _ _ hde => unt _ de hde⟩

/-- `BalD`, and no token opens or closes (no rule of the chain pushes an opening or a closing token) -/
def ZeroD (s : IState) : Prop := BalD s ∧ ∀ t ∈ s.tokens, t.nesting = 0

theorem zeroD_eq (s x : IState) (ht : x.tokens = s.tokens) (hd : x.delimiters = s.delimiters) (h : ZeroD s) : ZeroD x :=
  ⟨balD_eq s x ht hd h.1, by rw [ht]; exact h.2⟩

theorem zeroD_pushPending (s : IState) (h : ZeroD s) : ZeroD s.pushPending := by
  refine ⟨balD_pushPending s h.1, ?_⟩
  intro t ht
  rcases List.mem_append.1 ht with ht | ht
  · exact h.2 t ht
  · rw [List.mem_singleton] at ht; subst ht; rfl

theorem postHyp_of_zeroD (s : IState) (h : ZeroD s) : PostHyp (processDelims s.delimiters) s.tokens.length :=
  postHyp_of_balD s h.1

theorem postInv_init (s2 : IState) (h2 : ZeroD s2) :
    PostInv (processDelims s2.delimiters) s2.tokens.length (((processDelims s2.delimiters).length : Int) - 1) s2.tokens :=
  postInv_of_balD s2 h2.1

/-- "every token has nesting 0" is a case of token provenance (`C10.adds_of_leaf` at `N t := t.nesting = 0`) -/
theorem keeps_of_leaf {T r} (h : Leaf T r) (hT : ∀ s op, T s op → op.nesting = 0) : KeepsI ZeroD r := fun s silent hz a hr =>
  have ⟨_, e, p, _⟩ := C10.adds_of_leaf (N := fun t => t.nesting = 0) h (fun _ _ => rfl)
    (fun s op ht l => (POp.tok_nesting op l).trans (hT s op ht)) s silent a.1 a.2 hr
  ⟨keepsB_of_leaf h (fun s op ht _ => hT s op ht) s silent hz.1 a hr, fun t ht => (List.mem_append.1 (e ▸ ht)).elim (hz.2 t) (p t)⟩

theorem fragmentsJoin_balanced (level : Int) (ts : List Tok) (ht : ∀ t ∈ ts, t.type = "text" → t.nesting = 0) :
    ∀ d, balancedFrom d (fragmentsJoin level ts) = balancedFrom d ts :=
  fragmentsJoin_fold balancedFrom (fun d t u r r' hn _ hr => by simp only [balancedFrom, hn, hr])
    (fun d t n r h0 hn0 => by simp [balancedFrom, h0, hn0]) level ts ht

theorem eminiChain_keeps (cls : QCls) (c : IMiniCfg) : ∀ r ∈ eminiChain cls c true, KeepsI ZeroD r :=
  eminiChain_eq cls c true ▸ sminiChain_forall
    (iminiChain_forall (keeps_of_leaf leaf_text fun _ _ h => h.elim) (fun _ => keeps_of_leaf leaf_newline fun _ _ ⟨_, _, e⟩ => e ▸ rfl)
      (fun _ => keeps_of_leaf leaf_escape fun _ _ h => by rcases h with rfl | ⟨_, _, rfl⟩ <;> rfl)
      (fun _ => keeps_of_leaf leaf_backticks fun _ _ ⟨_, _, _, _, _, e⟩ => e ▸ rfl))
    nofun (fun _ => keeps_of_leaf (leaf_emphasis cls) fun _ _ ⟨_, _, _, _, _, e⟩ => e ▸ rfl)

theorem post_wellformed (s : IState) (h : BalD s) :
    levelsOK 0 (fragmentsJoin 0 (emphasisPost (balancePairs s)).tokens)
      ∧ balancedFrom 0 (fragmentsJoin 0 (emphasisPost (balancePairs s)).tokens) = true
      ∧ ∃ f, buildTree (fragmentsJoin 0 (emphasisPost (balancePairs s)).tokens) = .ok f := by
  obtain ⟨_, hbal, htext⟩ := emphPost_inv (processDelims s.delimiters) s.tokens.length (postHyp_of_balD s h) (processDelims s.delimiters).length _
    s.tokens (postInv_of_balD s h)
  have hb : balancedFrom 0 (fragmentsJoin 0 (emphasisPost (balancePairs s)).tokens) = true :=
    (fragmentsJoin_balanced 0 _ htext 0).trans hbal
  exact ⟨fragmentsJoin_levels 0 _ htext, hb, tree_of_balanced _ hb⟩

theorem emini_zeroD {cls : QCls} {c : IMiniCfg} {maxNesting : Int} {src : List Char} {s : IState}
    (htk : tokenize (eminiChain cls c true) maxNesting (IState.init src) = .ok s) : ZeroD s :=
  tokenize_keepsI (fun s _ hq => zeroD_eq s _ rfl rfl hq) zeroD_pushPending (eminiChain_keeps cls c) maxNesting _
    ⟨balD_init src, fun _ ht => by cases ht⟩ s htk

/-- **C02f.emini_wellformed** — for every source, every subset of the inline rules `newline`, `escape`, `backticks` with `emphasis`
enabled, every `maxNesting` and every classification of punctuation and white space: the inline stream — tokenize loop,
`balance_pairs`, emphasis post-processing, `fragments_join` — is levelled from 0, balanced, and `SyntaxTreeNode` builds -/
theorem emini_wellformed (cls : QCls) (c : IMiniCfg) (maxNesting : Int) (src : List Char) (ts : List Tok)
    (h : inlineParse (eminiChain cls c true) [balancePairs, emphasisPost] true maxNesting src = .ok ts) :
    levelsOK 0 ts ∧ balancedFrom 0 ts = true ∧ ∃ f, buildTree ts = .ok f := by
  obtain ⟨s, htk, rfl⟩ := inlineParse_ok h
  exact post_wellformed s (emini_zeroD htk).1

/-! non-vacuity: nested and adjacent emphasis, a crossing attempt, strong, an unmatched run, a code span and an escape in between -/
def asciiCls : QCls :=
  { isPunct := fun c => (33 ≤ c && c ≤ 47) || (58 ≤ c && c ≤ 64) || (91 ≤ c && c ≤ 96) || (123 ≤ c && c ≤ 126)
    isWhite := fun c => c == 32 || c == 9 || c == 10 }

example : C01.itypesOf (inlineParse (C01.eminiChain asciiCls ⟨true, true, true⟩ true) [balancePairs, emphasisPost] true 20
      "*a **b** c* _d *e_ f* ***g*** `h*` \\* i**".toList)
    = some ["em_open", "text", "strong_open", "text", "strong_close", "text", "em_close", "text", "em_open", "text",
            "em_close", "text", "em_open", "text", "strong_open", "text", "strong_close", "text", "em_close", "text",
            "code_inline", "text", "text_special", "text"] := by
  decide +kernel

end MdIt.C02f
