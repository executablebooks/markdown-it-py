import MdIt.Proofs.Render
import MdIt.Proofs.Dict
/-!
# C15 (continued) — rendering is repeatable

The only write the renderer makes to a token is `alt` on the image tokens it renders.  Rendering the stream *as the first render left it*
(`afterRender`) gives the same pieces: `setAlt` is idempotent (the description is recomputed from the same children and written over
itself), and a token's neighbours enter `renderToken` only through `type`, `tag`, `nesting` and `hidden`, which `setAlt` and the rewriting
of an inline token's children leave alone.
-/
namespace MdIt.C15

/-- what a neighbour contributes to `renderToken` -/
inductive SameShape : Option Tok → Option Tok → Prop
  | none : SameShape none none
  | some {a b : Tok} : a.type = b.type → a.tag = b.tag → a.nesting = b.nesting → a.hidden = b.hidden → SameShape (some a) (some b)

theorem renderTokenP_shape (o : ROpts) (p p' : Option Tok) (t : Tok) (n n' : Option Tok) (hp : SameShape p p') (hn : SameShape n n') :
    renderTokenP o p' t n' = renderTokenP o p t n := by
  have h1 : renderTokenP o p' t n' = renderTokenP o p t n' := by
    cases hp with
    | none => rfl
    | some _ _ _ a4 => simp only [renderTokenP, a4]
  rw [h1]
  cases hn with
  | none => rfl
  | some b1 b2 b3 b4 => simp only [renderTokenP, b1, b2, b3, b4]

theorem SameShape.refl (a : Option Tok) : SameShape a a := by
  cases a with
  | none => exact .none
  | some x => exact .some rfl rfl rfl rfl

theorem SameShape.type_eq {a b : Tok} (h : SameShape (Option.some a) (Option.some b)) : a.type = b.type := by
  cases h; assumption

theorem head_map_shape (f : Tok → Tok) (hf : ∀ t, SameShape (some t) (some (f t))) (l : List Tok) :
    SameShape l.head? (l.map f).head? := by
  cases l with
  | nil => exact .none
  | cons a as => exact hf a

/-- the token as one render leaves it inside an inline list -/
def altOf (t : Tok) : Tok := if t.type == "image" then setAlt t else t

theorem altOf_shape (t : Tok) : SameShape (some t) (some (altOf t)) := by
  unfold altOf; split
  · cases t; exact .some rfl rfl rfl rfl
  · exact .refl _

theorem renderOne_shape (x : Ext) (o : ROpts) (p p' : Option Tok) (t : Tok) (n n' : Option Tok) (hp : SameShape p p')
    (hn : SameShape n n') : renderOne x o p' t n' = renderOne x o p t n := by
  rw [renderOne_eq, renderOne_eq]
  cases kindOf t.type
  case image => exact congrArg Except.ok (renderTokenP_shape o p p' _ n n' hp hn)
  case other => exact congrArg Except.ok (renderTokenP_shape o p p' _ n n' hp hn)
  all_goals rfl

theorem renderOne_altOf (x : Ext) (o : ROpts) (p p' : Option Tok) (t : Tok) (n n' : Option Tok) (hp : SameShape p p')
    (hn : SameShape n n') : renderOne x o p' (altOf t) n' = renderOne x o p t n := by
  unfold altOf
  by_cases hi : (t.type == "image") = true
  · rw [if_pos hi, renderOne_image (eq_of_beq hi), renderOne_image ((setAlt_type t).trans (eq_of_beq hi)), setAlt_idem,
      renderTokenP_shape o p p' _ n n' hp hn]
  · rw [if_neg hi]
    exact renderOne_shape x o p p' t n n' hp hn

theorem renderInlineP_after (x : Ext) (o : ROpts) :
    ∀ (l : List Tok) (p p' : Option Tok), SameShape p p' → renderInlineP x o p' (l.map altOf) = renderInlineP x o p l := by
  intro l
  induction l with
  | nil => intro p p' _; rfl
  | cons t rest ih =>
    intro p p' hp
    simp only [List.map_cons, renderInlineP]
    rw [renderOne_altOf x o p p' t rest.head? (rest.map altOf).head? hp (head_map_shape _ altOf_shape rest),
      ih (some t) (some (altOf t)) (altOf_shape t)]

/-- the token as one render leaves it at the top level -/
def afterTok (t : Tok) : Tok :=
  if t.type == "inline" then
    match t with
    | .mk type tag nesting attrs map level (some (c :: cs)) content markup info metaD block hidden =>
      .mk type tag nesting attrs map level (some (afterRenderInline (c :: cs))) content markup info metaD block hidden
    | other => other
  else if t.type == "image" then setAlt t else t

theorem afterRender_eq (ts : List Tok) : afterRender ts = ts.map afterTok := rfl

theorem afterTok_inline {t : Tok} (h : (t.type == "inline") = true) :
    (afterTok t).children.getD [] = (t.children.getD []).map altOf := by
  obtain ⟨type, tag, nesting, attrs, map, level, children, content, markup, info, metaD, block, hidden⟩ := t
  unfold afterTok
  rw [if_pos h]
  cases children with
  | none => rfl
  | some cs => cases cs <;> rfl

theorem afterTok_shape (t : Tok) : SameShape (some t) (some (afterTok t)) := by
  unfold afterTok
  split
  · split <;> exact .some rfl rfl rfl rfl
  · exact altOf_shape t

theorem renderP_after (x : Ext) (o : ROpts) :
    ∀ (l : List Tok) (p p' : Option Tok), SameShape p p' → renderP x o p' (l.map afterTok) = renderP x o p l := by
  intro l
  induction l with
  | nil => intro p p' _; rfl
  | cons t rest ih =>
    intro p p' hp
    rw [List.map_cons, renderP_cons, renderP_cons, ih (some t) (some (afterTok t)) (afterTok_shape t), ← (afterTok_shape t).type_eq]
    congr 1
    by_cases hi : (t.type == "inline") = true
    · rw [if_pos hi, if_pos hi, afterTok_inline hi]
      exact renderInlineP_after x o _ none none .none
    · rw [if_neg hi, if_neg hi, show afterTok t = altOf t by unfold afterTok; rw [if_neg hi]; rfl]
      exact renderOne_altOf x o p p' t rest.head? (rest.map afterTok).head? hp (head_map_shape _ afterTok_shape rest)

/-- nothing is asked of `x`: only image tokens differ after a render, and `fenceLang` is never applied to an image -/
theorem render_afterRender (x : Ext) (o : ROpts) (ts : List Tok) : render x o (afterRender ts) = render x o ts := by
  unfold render
  rw [afterRender_eq, renderP_after x o ts none none .none]

/-- **C15.render_repeatable** — rendering a stream again, as the first render left it (image `alt` attributes written), gives the same
output, for every stream and render options.  It holds for every fence-language function (`render_afterRender`): the hypothesis
`hx` is not needed. -/
theorem render_repeatable (x : Ext) (o : ROpts) (hx : ∀ u, x.fenceLang (setAlt u) = x.fenceLang u) (ts : List Tok) :
    render x o (afterRender ts) = render x o ts :=
  render_afterRender x o ts

theorem afterRender_idem_tok (t : Tok) : altOf (altOf t) = altOf t := by
  unfold altOf
  by_cases hi : (t.type == "image") = true
  · simp only [hi, if_true, setAlt_type, setAlt_idem]
  · simp only [hi, Bool.false_eq_true, if_false]

end MdIt.C15
