import MdIt.Props.C10g
/-!
# C10 (continued) — `store_labels` only adds label metadata

Metadata is written only by `link` / `image`, on a reference form; the deep token engine (`C05.full_deep`) carries the predicate
`LMeta` through the whole parse.
-/
namespace MdIt.C10
open MdIt.C01 MdIt.C05

def MetaOK (lx : LExt) (t : Tok) : Prop :=
  t.metaD = [] ∨ (lx.storeLabels = true ∧ ∃ l : List Char, l ≠ [] ∧ t.metaD = [("label", String.ofList l)])

theorem metaOK_of_label (lx : LExt) (t : Tok) (label : List Char)
    (h : t.metaD = (if !label.isEmpty && lx.storeLabels then [("label", String.ofList label)] else [])) : MetaOK lx t := by
  by_cases hc : (!label.isEmpty && lx.storeLabels) = true
  · rw [if_pos hc] at h
    simp only [Bool.and_eq_true, Bool.not_eq_eq_eq_not, Bool.not_true] at hc
    exact .inr ⟨hc.2, label, by intro he; rw [he] at hc; simp at hc, h⟩
  · rw [if_neg hc] at h
    exact .inl h

def LMeta (lx : LExt) (t : Tok) : Prop := (t.type = "link_open" ∨ t.type = "image") → MetaOK lx t

theorem lmeta_other (lx : LExt) (t : Tok) (h1 : t.type ≠ "link_open") (h2 : t.type ≠ "image") : LMeta lx t :=
  fun h => by rcases h with h | h <;> contradiction

theorem lmeta_parseN (ext : IExt) (lx : LExt) (ic : ICfg) : ParseN ext lx ic (LMeta lx) where
  fields t u e h := by
    simp only [Prod.mk.injEq] at e
    unfold LMeta MetaOK at *
    rw [← e.1, ← e.2.2]; exact h
  plain t _ := lmeta_other lx t
  linkOpen _ t _ label _ _ hmd _ _ := metaOK_of_label lx t label hmd
  image _ t _ label _ _ hmd _ _ := metaOK_of_label lx t label hmd

/-- **C10.full_meta** — `store_labels` only adds label metadata: in the whole parse (modelled sub-language, `inline` on), below every
`inline` token and at every depth of nested image descriptions, a `link_open` / `image` token carries no metadata when the option is off,
and when it is on at most one entry, `label`, with a non-empty label -/
theorem full_meta (cls : QCls) (ext : IExt) (lx : LExt) (bc : MCfg) (ic : ICfg) (hon : ic.inlineOn = true) (ws : List Nat) (mn : Int) (d : Nat)
    (src : List Char) (ts : List Tok) (h : fullParse cls ext lx bc ic ws mn d src = .ok ts) :
    ∀ t ∈ ts, t.type = "inline" → ∀ x ∈ descOpt t.children, (x.type = "link_open" ∨ x.type = "image") → MetaOK lx x :=
  fun t ht => (full_deep (lmeta_parseN ext lx ic) cls bc hon ws mn d src ts h t ht).2

end MdIt.C10
