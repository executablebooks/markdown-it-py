import MdIt.Props.C10m
import MdIt.Props.C10f
/-!
# C10 (continued) — provenance for the block parse with the `table` rule: no table tokens without the table rule

`tChain_seg` is `C02.tower_segL` for `tChain` with `reference` off, `tParse_segs` the parse-level reading (`C02.parse_segs`): the segment
engine that the properties of the ten-rule parse instantiate with their own segment predicates.  Instance here: the token types (`t_provenance`, `t_no_table`).
-/
namespace MdIt.C10
open MdIt.C01 MdIt.C02

def AppT (s s' : BState) : Prop := ∃ seg, s'.tokens = s.tokens ++ seg ∧ ∀ t ∈ seg, t.type ∈ tableTypes

theorem fixups (a seg : List Tok) (n2 i2 : Nat) (hn : n2 = a.length + i2) (m1 m2 : Option (Nat × Nat)) (b : Bool)
    (h : ∀ t ∈ seg, t.type ∈ tableTypes) :
    ∃ seg', (if b = true then ((a ++ seg).modify a.length (fun t => t.setMap m1)).modify n2 (fun t => t.setMap m2)
        else (a ++ seg).modify a.length (fun t => t.setMap m1)) = a ++ seg' ∧ ∀ t ∈ seg', t.type ∈ tableTypes := by
  -- both fix-ups land inside the appended segment, and `setMap` keeps the type
  have hQ : ∀ (g : List Tok) (j : Nat) (m : Option (Nat × Nat)), (∀ t ∈ g, t.type ∈ tableTypes) →
      ∀ t ∈ g.modify j (fun t => t.setMap m), t.type ∈ tableTypes :=
    fun _ j m => forall_mem_modify (f := fun t : Tok => t.setMap m) (fun t ht => by rw [C02.setMap_type]; exact ht) j
  have e1 := modify_append_right a seg 0 (fun t => t.setMap m1)
  rw [Nat.add_zero] at e1
  cases b with
  | false => exact ⟨_, by simp [e1], hQ seg 0 m1 h⟩
  | true => exact ⟨_, by simp only [if_true]; rw [e1, hn, modify_append_right], hQ _ i2 m2 (hQ seg 0 m1 h)⟩

theorem table_appends (codeOn : Bool) (terms : List BRule) (hin : ∀ t ∈ terms, SilentInert t) (ws : List Nat) (s : BState) (line endLine : Nat)
    (hlen : endLine < s.lines.length) (silent m : Bool) (s' : BState) (h : ruleTable codeOn terms ws s line endLine silent = .ok (m, s')) :
    AppT s s' := by
  rcases table_appAll codeOn terms hin ws s line endLine hlen silent m s' h with rfl | ⟨_, _, seg, _, e, hseg⟩
  · exact ⟨[], by simp, by simp⟩
  · exact ⟨seg, e, fun t ht => (hseg t ht).1.1⟩

/-- `C02.InnerSegs` at `tChain`; the body does not depend on the argument `hnr` -/
def InnerSegT (S : BState → List Tok → Prop) (ext : IExt) (lx : LExt) (c : TCfg) (hnr : c.reference = false) (ws : List Nat) (mn : Int) (d : Nat) : Prop :=
  ∀ (s : BState) (startLine endLine : Nat) (s' : BState), s.lineMax + 1 ≤ s.lines.length → endLine ≤ s.lineMax → Lv mn d s endLine →
    blockTokenize (tChain ext lx c ws mn d) mn s startLine endLine = .ok s' →
    ∃ segs : List (List Tok), s'.tokens = s.tokens ++ segs.flatten ∧ ∀ g ∈ segs, S s g

theorem tChain_seg (S : BState → List Tok → Prop) (hw : QuoteWrap S) (hlw : ListWrap S) (ext : IExt) (lx : LExt) (c : TCfg) (hnr : c.reference = false) (ws : List Nat) (mn : Int)
    (hleaf : ∀ (P : BState → Nat → Prop), ∀ r ∈ tLeaves c ws mn, SegOK P S r) : ∀ d : Nat,
    (∀ r ∈ tChain ext lx c ws mn d, SegOK (Lv mn d) S r) ∧ InnerSegT S ext lx c hnr ws mn d :=
  tower_segL (tTower ext lx c hnr ws mn) (tChain_ok ext lx c hnr ws mn) S hw hlw hleaf

theorem tParse_segs (S : BState → List Tok → Prop) (hw : QuoteWrap S) (hlw : ListWrap S) (ext : IExt) (lx : LExt) (c : TCfg) (hnr : c.reference = false) (ws : List Nat) (mn : Int)
    (hleaf : ∀ (P : BState → Nat → Prop), ∀ r ∈ tLeaves c ws mn, SegOK P S r) (src : List Char) (st : BState)
    (h : tParse ext lx c ws mn src = .ok st) :
    ∃ segs : List (List Tok), st.tokens = segs.flatten ∧ ∀ g ∈ segs, S (initBState (normalize src)) g :=
  parse_segs S mn _ (tChain_seg S hw hlw ext lx c hnr ws mn hleaf _).2 src st h

def tAllowed (c : TCfg) : List String := mAllowed c.toMCfg ++ (if c.table then tableTypes else [])

theorem mAllowed_sub_t (c : TCfg) : ∀ ty ∈ mAllowed c.toMCfg, ty ∈ tAllowed c := fun _ => List.mem_append_left _

theorem typesOK_table (P : BState → Nat → Prop) (c : TCfg) (hon : c.table = true) (terms : List BRule) (hin : ∀ t ∈ terms, SilentInert t)
    (ws : List Nat) : SegOK P (TypesOf (tAllowed c)) (ruleTable c.code terms ws) :=
  segOK_of_leaf (table_leaf P c.code terms hin ws) fun _ _ _ _ _ _ ⟨_, _, _, _, _, hn, hseg⟩ t ht => by
    subst hn hseg
    simp only [tAllowed, hon, if_true, List.mem_append]
    exact .inr (mem_tableToks ht).1.1

theorem typesOK_tLeaves (c : TCfg) (ws : List Nat) (mn : Int) (P : BState → Nat → Prop) :
    ∀ r ∈ tLeaves c ws mn, SegOK P (TypesOf (tAllowed c)) r :=
  forall_tLeaves (fun hc => typesOK_table _ c hc _ (mTerminators_inert c.toMCfg ws mn) ws)
    fun r h => types_mono (typesOK_leavesM P c.toMCfg (tParaTerms_inertE c ws mn) ws r h) (mAllowed_sub_t c)

/-- **C10.t_provenance** — the block parse with ten of the eleven rules, `table` included: every token type of the stream belongs to
    an enabled rule's vocabulary, at any depth inside quotes and lists -/
theorem t_provenance (ext : IExt) (lx : LExt) (c : TCfg) (hnr : c.reference = false) (ws : List Nat) (maxNesting : Int) (src : List Char)
    (st : BState) (h : tParse ext lx c ws maxNesting src = .ok st) : ∀ t ∈ st.tokens, t.type ∈ tAllowed c := by
  have up := fun ty h => mAllowed_sub_t c ty (lAllowed_sub_m c.toMCfg ty h)
  obtain ⟨segs, hts, hS⟩ := tParse_segs (TypesOf (tAllowed c)) (typesOf_wrap fun _ h => up _ ((lAllowed_containers _).1 _ h))
    (typesOf_listWrap fun _ h => up _ ((lAllowed_containers _).2 _ h)) ext lx c hnr ws maxNesting (typesOK_tLeaves c ws maxNesting) src st h
  exact toks_flatten hts hS

/-- `tableTypes` without `"inline"`, which paragraphs and headings produce too -/
def tblOnly : List String :=
  ["table_open", "table_close", "thead_open", "thead_close", "tbody_open", "tbody_close", "tr_open", "tr_close", "th_open", "th_close",
   "td_open", "td_close"]

/-- switching rules on only adds to the vocabulary; the term follows the appends of `mAllowed`, `lAllowed`, `qAllowed`, `allowedTypes` -/
theorem mAllowed_sub (c : MCfg) : ∀ ty ∈ mAllowed c, ty ∈ mAllowed ⟨⟨true, true, true, true⟩, true, true, true⟩ :=
  mem_append_mono (mem_append_mono (mem_append_mono (mem_append_mono (mem_append_mono (mem_append_mono (mem_append_mono (mem_append_mono
    (fun _ h => h) (mem_ite_on rfl)) (mem_ite_on rfl)) (mem_ite_on rfl)) (mem_ite_on rfl)) (fun _ h => h)) (fun _ h => h))
    (mem_ite_on rfl)) (mem_ite_on rfl)

/-- no table-only type is in the vocabulary of the rules other than `table`: checked once, with every switch on -/
theorem mAllowed_not_tbl (c : MCfg) : ∀ ty ∈ mAllowed c, ty ∉ tblOnly :=
  fun ty h => (by decide : ∀ ty ∈ mAllowed ⟨⟨true, true, true, true⟩, true, true, true⟩, ty ∉ tblOnly) ty (mAllowed_sub c ty h)

/-- **C10.t_no_table** — "no table tokens without the table rule": with the rule off none of the table's token types occurs anywhere
    in the block stream -/
theorem t_no_table (ext : IExt) (lx : LExt) (c : TCfg) (hnr : c.reference = false) (hoff : c.table = false) (ws : List Nat) (mn : Int)
    (src : List Char) (st : BState) (h : tParse ext lx c ws mn src = .ok st) :
    ∀ t ∈ st.tokens, t.type ∉ ["table_open", "table_close", "thead_open", "thead_close", "tbody_open", "tbody_close", "tr_open", "tr_close",
      "th_open", "th_close", "td_open", "td_close"] := by
  intro t ht hmem
  have := t_provenance ext lx c hnr ws mn src st h t ht
  simp only [tAllowed, hoff, Bool.false_eq_true, if_false, List.append_nil] at this
  exact mAllowed_not_tbl c.toMCfg _ this hmem

/-! non-vacuity: the same table-shaped lines with the rule off stay a paragraph (inside a quote: the rule would have matched there) -/
example : C01.stateTypes (tParse { entity := fun _ => none, reformat := id, normText := id, html := false }
      { hasRefs := false, normRef := id, storeLabels := false, refs := fun _ => none }
      { code := true, fence := true, hr := true, heading := true, htmlBlock := false, lheading := true, html := false, reference := false,
        inlineDefs := false, table := false } [32, 9, 10, 11, 12, 13] 20
      "> |a|b|\n> |-|-|\n> |c|d|\n".toList)
    = some (["blockquote_open", "paragraph_open", "inline", "paragraph_close", "blockquote_close"], 3) := by
  decide +kernel

end MdIt.C10
