import MdIt.Props.C10i
import MdIt.Proofs.Pipeline
/-!
# C10 (continued) — conservative extension for all ten switchable inline rules at once

Two configurations parse alike on a source without the triggers of the rules they differ in (`any_two_configurations`).  Their chains
are extensions of each other, so the tokenizer leaves the same state under both.  A chain records no delimiter of a rule it does not
hold (`chainC_keeps`, about one configuration), so that state has no record of a rule the two differ in, and on such a state the two
second chains give the same tokens (`imgPost_congr`).
-/
namespace MdIt.C10
open MdIt.C01

theorem off_of_ne {x y : Bool} (h : (x != y) = true) : (!x) = true ∨ (!y) = true := by
  cases x <;> cases y <;> simp at h ⊢

/-- the records of a rule switched off do not occur: no tilde record if `ds`, no emphasis record if `de` -/
def QM (ds de : Bool) (d : Delim) : Prop := (ds = true → NT d) ∧ (de = true → NE d)

theorem dinv_mono {Q Q' : Delim → Prop} (h : ∀ d, Q d → Q' d) {s : IState} (hj : DInv Q s) : DInv Q' s :=
  ⟨fun d hd => h d (hj.cur d hd), fun l hl d hd => h d (hj.scopes l hl d hd), fun p hp d hd => h d (hj.metas p hp d hd)⟩

theorem DInv.and {Q Q' : Delim → Prop} {s : IState} (h : DInv Q s) (h' : DInv Q' s) : DInv (fun d => Q d ∧ Q' d) s :=
  ⟨fun d hd => ⟨h.cur d hd, h'.cur d hd⟩, fun l hl d hd => ⟨h.scopes l hl d hd, h'.scopes l hl d hd⟩,
    fun p hp d hd => ⟨h.metas p hp d hd, h'.metas p hp d hd⟩⟩

theorem balancePairsL_dinv (P : Nat → Prop) (s : IState) (h : DInv (fun d => P d.marker) s) : DInv (fun d => P d.marker) (balancePairsL s) := by
  unfold balancePairsL
  refine ⟨processDelims_markers P _ h.cur, h.scopes, ?_⟩
  intro p hp
  simp only [List.mem_map] at hp
  obtain ⟨q, hq, rfl⟩ := hp
  exact processDelims_markers P _ (h.metas q hq)

/-- the configurations of the whole inline sub-parser: the eight first-chain switches and the two rules with a second-chain part -/
structure Cfg where
  sw : Sw
  strike : Bool
  emphasis : Bool

theorem imgPost_tokens (st em : Bool) (s : IState) : ((imgPost st em).foldl (fun acc f => f acc) s).tokens
    = ((if em then emphasisPostL else id) ((if st then strikePostL else id) (balancePairsL s))).tokens := by
  cases st <;> cases em <;> rfl

theorem optPost_congr (b b' : Bool) (f : IState → IState) (x : IState) (h : b ≠ b' → f x = x) :
    (if b then f else id) x = (if b' then f else id) x := by
  cases b <;> cases b'
  · rfl
  · exact (h (by decide)).symm
  · exact h (by decide)
  · rfl

/-- the second chains of two configurations give the same tokens on a state without records of the rules they differ in -/
theorem imgPost_congr (sa ea sb eb : Bool) (s : IState) (h : DInv (QM (sa != sb) (ea != eb)) s) :
    ((imgPost sa ea).foldl (fun acc f => f acc) s).tokens = ((imgPost sb eb).foldl (fun acc f => f acc) s).tokens := by
  have hb := balancePairsL_dinv (fun m => ((sa != sb) = true → m ≠ 0x7E) ∧ ((ea != eb) = true → m ≠ 0x5F ∧ m ≠ 0x2A)) s h
  rw [imgPost_tokens, imgPost_tokens,
    optPost_congr sa sb strikePostL _ fun hd => strikePostL_id_nt _ (dinv_mono (fun d hq => hq.1 (by simpa using hd)) hb)]
  -- `strikePostL` writes tokens only
  have hx : DInv (QM (sa != sb) (ea != eb)) ((if sb then strikePostL else id) (balancePairsL s)) := by
    cases sb
    · exact hb
    · exact .of_eq (⟨rfl, rfl, rfl⟩ : DEq (balancePairsL s) (strikePostL (balancePairsL s))) hb
  rw [optPost_congr ea eb emphasisPostL _ fun hd => emphasisPostL_id_ne _ (dinv_mono (fun d hq => hq.2 (by simpa using hd)) hx)]

theorem imgPost_le (sa ea sb eb : Bool) (hs : sa = true → sb = true) (he : ea = true → eb = true) (s : IState)
    (h : DInv (QM (!sa && sb) (!ea && eb)) s) :
    ((imgPost sb eb).foldl (fun acc f => f acc) s).tokens = ((imgPost sa ea).foldl (fun acc f => f acc) s).tokens := by
  refine (imgPost_congr sa ea sb eb s (dinv_mono (fun d hq => ⟨fun hd => hq.1 ?_, fun hd => hq.2 ?_⟩) h)).symm
  · revert hs hd; cases sa <;> cases sb <;> simp
  · revert he hd; cases ea <;> cases eb <;> simp

abbrev chainC (cls : QCls) (ext : IExt) (lx : LExt) (text fragJoin : Bool) (c : Cfg) (mn : Int) (d : Nat) : List IRule :=
  chainOf cls ext lx text c.strike c.emphasis fragJoin c.sw mn d

section config
variable (cls : QCls) (ext : IExt) (lx : LExt) (text fragJoin : Bool)

theorem chainC_ok4 (c : Cfg) (mn : Int) (d : Nat) : ∀ r ∈ chainC cls ext lx text fragJoin c mn d, IOK4 r :=
  imgChain_ok4 _ _ _ _ _ _ _ _ _ _ _ _ _ _ _ _ d

/-- the chain of one configuration makes no record of a delimiter rule it does not hold -/
theorem chainC_keeps (c : Cfg) (mn : Int) :
    ∀ d : Nat, ∀ r ∈ chainC cls ext lx text fragJoin c mn d, KeepsI (DInv (QM (!c.strike) (!c.emphasis))) r := by
  refine imgChain_forall (fun _ => keepsI_of_norec leaf_text fun _ _ h => h.elim) (fun _ => keepsI_of_norec leaf_newline fun _ _ ⟨_, _, e⟩ => e ▸ rfl)
    (fun _ => keepsI_of_norec leaf_escape fun _ _ h => by rcases h with rfl | ⟨_, _, rfl⟩ <;> rfl)
    (fun _ => keepsI_of_norec leaf_backticks fun _ _ ⟨_, _, _, _, _, e⟩ => e ▸ rfl) (fun hst => ?_) (fun hem => ?_)
    (fun _ _ _ _ ih => keepsI_link ih ext lx mn) (fun _ _ _ _ ih => keepsI_image ih ext lx mn _)
    (fun _ => keepsI_of_norec (leaf_autolink ext) fun _ _ ⟨_, _, _, hm⟩ => by
      simp only [autolinkOps, List.mem_cons, List.not_mem_nil, or_false] at hm
      rcases hm with rfl | rfl | rfl <;> rfl)
    (fun _ => keepsI_of_norec (leaf_htmlInline ext) fun _ _ ⟨_, _, e⟩ => e ▸ rfl)
    (fun _ => keepsI_of_norec (leaf_entity ext) fun _ _ ⟨_, _, e⟩ => e ▸ rfl)
  · refine keepsI_strike cls fun tok o c' => ⟨fun hd => ?_, fun _ => ⟨by show (0x7E : Nat) ≠ 0x5F; decide, by show (0x7E : Nat) ≠ 0x2A; decide⟩⟩
    rw [hst] at hd; cases hd
  · refine keepsI_emphasis cls fun m hm len tok o c' => ⟨fun _ => nt_emph m hm len tok o c', fun hd => ?_⟩
    rw [hem] at hd; cases hd

end config

theorem tokenize_dinv {Q : Delim → Prop} {rs : List IRule} (hrs : ∀ r ∈ rs, KeepsI (DInv Q) r) (mn : Int) (S : List Char) :
    OKI id (DInv Q) (tokenize rs mn (IState.init S)) :=
  tokenize_keepsI (fun s _ h => dinv_deq s _ ⟨rfl, rfl, rfl⟩ h) (fun s h => dinv_deq s _ (pushPending_deq s) h) hrs mn _ ⟨nofun, nofun, nofun⟩

theorem tokenize_ext {S : List Char} {l l' : List IRule} (hE : Ext S l l') (hok : ∀ r ∈ l, IOK4 r) (mn : Int) :
    tokenize l mn (IState.init S) = tokenize l' mn (IState.init S) := by
  unfold tokenize
  rw [tokenizeLoop_ext hE hok mn _ _ false (IState.init S) rfl (Nat.le_refl _) nofun rfl]

/-- Two chains that are extensions of each other on `S` leave the same state.  It holds no record of a delimiter rule switched off
beside either chain, and one of the two is switched off wherever `sa ≠ sb` (`ea ≠ eb`). -/
theorem parse_ext {S : List Char} {l l' : List IRule} (hE : Ext S l l') (hok : ∀ r ∈ l, IOK4 r) (sa ea sb eb : Bool)
    (hk : ∀ r ∈ l, KeepsI (DInv (QM (!sa) (!ea))) r) (hk' : ∀ r ∈ l', KeepsI (DInv (QM (!sb) (!eb))) r) (fj : Bool) (mn : Int) :
    inlineParse l (imgPost sa ea) fj mn S = inlineParse l' (imgPost sb eb) fj mn S := by
  have he := tokenize_ext hE hok mn
  unfold inlineParse
  rw [← he]
  cases h1 : tokenize l mn (IState.init S) with
  | error e => rfl
  | ok s1 =>
    dsimp only
    rw [imgPost_congr sa ea sb eb s1 (dinv_mono (fun d ⟨ha, hb⟩ => ⟨fun hd => (off_of_ne hd).elim ha.1 hb.1, fun hd => (off_of_ne hd).elim ha.2 hb.2⟩)
      ((tokenize_dinv hk mn S s1 h1).and (tokenize_dinv hk' mn S s1 (he ▸ h1))))]

/-- the source holds no trigger of a rule on which the two configurations differ -/
def CleanC (a b : Cfg) (S : List Char) : Prop :=
  Clean a.sw b.sw S ∧ (a.strike ≠ b.strike → NoPair S) ∧ (a.emphasis ≠ b.emphasis → '*' ∉ S ∧ '_' ∉ S)

theorem CleanC.sub {a b : Cfg} {S c : List Char} (h : CleanC a b S) (hc : c <:+: S) : CleanC a b c :=
  ⟨h.1.sub hc, fun hd => (h.2.1 hd).sub hc, fun hd => ⟨fun hm => (h.2.2 hd).1 (hc.subset hm), fun hm => (h.2.2 hd).2 (hc.subset hm)⟩⟩

section config
variable (cls : QCls) (ext : IExt) (lx : LExt) (text fragJoin : Bool) (a b : Cfg) (mn : Int)

theorem chainC_ext : ∀ d : Nat, ∀ S : List Char, CleanC a b S →
    Ext S (chainC cls ext lx text fragJoin a mn d) (chainC cls ext lx text fragJoin b mn d) := by
  intro d
  induction d with
  | zero => intro S _; exact .nil
  | succ d ih =>
    intro S hcl
    have hE := ih S hcl
    have hok := chainC_ok4 cls ext lx text fragJoin a mn d
    -- an image description is a piece of the source
    have hparse : ∀ c : List Char, c <:+: S →
        inlineParse (chainC cls ext lx text fragJoin a mn d) (imgPost a.strike a.emphasis) fragJoin mn c
          = inlineParse (chainC cls ext lx text fragJoin b mn d) (imgPost b.strike b.emphasis) fragJoin mn c := fun c hc =>
      parse_ext (ih c (hcl.sub hc)) hok _ _ _ _ (chainC_keeps cls ext lx text fragJoin a mn d) (chainC_keeps cls ext lx text fragJoin b mn d) fragJoin mn
    obtain ⟨⟨h1, h2, h3, h4, h5, h6, h7, h8⟩, h9, h10⟩ := hcl
    show Ext S (imgChain _ _ _ _ _ _ _ _ _ _ _ _ _ _ _ _ (d + 1)) (imgChain _ _ _ _ _ _ _ _ _ _ _ _ _ _ _ _ (d + 1))
    simp only [imgChain]
    refine Ext.append (Ext.append (Ext.append (Ext.append (Ext.append (Ext.append (Ext.append (Ext.append (Ext.append (Ext.append ?_ ?_) ?_) ?_) ?_) ?_) ?_) ?_) ?_) ?_) ?_
    · exact ext_leaf fun h => absurd rfl h
    · exact ext_leaf fun h => inert_newline (h1 h)
    · exact ext_leaf fun h => inert_escape (h2 h)
    · exact ext_leaf fun h => inert_backticks (h3 h)
    · exact ext_leaf fun h => inert_strike (h9 h) cls
    · exact ext_leaf fun h => inert_emphasis (h10 h).1 (h10 h).2 cls
    · exact ext_opt _ _ _ _ (agree_link hE hok ext lx mn) fun h => ⟨inert_link (h4 h) _ _ _ _, inert_link (h4 h) _ _ _ _⟩
    · exact ext_opt _ _ _ _ (agree_image hE hok ext lx mn _ _ hparse) fun h => ⟨inert_image (h5 h) _ _ _ _ _, inert_image (h5 h) _ _ _ _ _⟩
    · exact ext_leaf fun h => inert_autolink (h6 h) _
    · exact ext_leaf fun h => inert_htmlInline (h7 h) _
    · exact ext_leaf fun h => inert_entity (h8 h) _

end config

/-- **C10.any_two_configurations** — any two configurations of the ten switchable rules of the inline sub-parser: if the source holds
no trigger of a rule enabled in exactly one of them (`~~` for `strikethrough`, `*` or `_` for `emphasis`, the others as in
`conservative_extension`), the two token streams are identical, second-chain rules included. -/
theorem any_two_configurations (cls : QCls) (ext : IExt) (lx : LExt) (text fragJoin : Bool) (a b : Cfg) (mn : Int) (d : Nat) (src : List Char)
    (h : CleanC a b src) :
    inlineParse (chainC cls ext lx text fragJoin a mn d) (imgPost a.strike a.emphasis) fragJoin mn src
      = inlineParse (chainC cls ext lx text fragJoin b mn d) (imgPost b.strike b.emphasis) fragJoin mn src :=
  parse_ext (chainC_ext cls ext lx text fragJoin a b mn d src h) (chainC_ok4 cls ext lx text fragJoin a mn d) _ _ _ _
    (chainC_keeps cls ext lx text fragJoin a mn d) (chainC_keeps cls ext lx text fragJoin b mn d) fragJoin mn

theorem extension_le (cls : QCls) (ext : IExt) (lx : LExt) (text fragJoin : Bool) (a b : Cfg)
    (hs : a.strike = true → b.strike = true) (he : a.emphasis = true → b.emphasis = true) (mn : Int) (d : Nat) (src : List Char)
    (h : CleanC a b src) :
    inlineParse (chainC cls ext lx text fragJoin a mn d) (imgPost a.strike a.emphasis) fragJoin mn src
      = inlineParse (chainC cls ext lx text fragJoin b mn d) (imgPost b.strike b.emphasis) fragJoin mn src :=
  any_two_configurations cls ext lx text fragJoin a b mn d src h

theorem chain_ext (cls : QCls) (ext : IExt) (lx : LExt) (text strike emphasis fragJoin : Bool) (a b : Sw) (mn : Int) :
    ∀ d : Nat, ∀ S : List Char, Clean a b S →
      Ext S (chainOf cls ext lx text strike emphasis fragJoin a mn d) (chainOf cls ext lx text strike emphasis fragJoin b mn d) :=
  fun d S h => chainC_ext cls ext lx text fragJoin ⟨a, strike, emphasis⟩ ⟨b, strike, emphasis⟩ mn d S
    ⟨h, fun hd => absurd rfl hd, fun hd => absurd rfl hd⟩

/-- **C10.conservative_extension** — the conservative-extension clause for the inline rules: two configurations of the eleven-rule inline
sub-parser that differ only in which of `newline`, `escape`, `backticks`, `link`, `image`, `autolink`, `html_inline`, `entity` are
enabled give the *same token stream* on every source that holds none of the trigger characters of the rules they differ in
(`\n`, `\\`, `` ` ``, `[`, `!`, `<`, `<`, `&`) — at every nesting depth (the label walks, link texts and image descriptions run the same
chains). -/
theorem conservative_extension (cls : QCls) (ext : IExt) (lx : LExt) (text strike emphasis fragJoin : Bool) (a b : Sw) (mn : Int) (d : Nat)
    (src : List Char) (h : Clean a b src) :
    inlineParse (chainOf cls ext lx text strike emphasis fragJoin a mn d) (imgPost strike emphasis) fragJoin mn src
      = inlineParse (chainOf cls ext lx text strike emphasis fragJoin b mn d) (imgPost strike emphasis) fragJoin mn src :=
  any_two_configurations cls ext lx text fragJoin ⟨a, strike, emphasis⟩ ⟨b, strike, emphasis⟩ mn d src
    ⟨h, fun hd => absurd rfl hd, fun hd => absurd rfl hd⟩

/-- **C10.strikethrough_conservative** — the example the property itself gives: on a source without `~~` the token stream of the inline
sub-parser is the same with the strikethrough extension on or off, its tokenizer rule and its second-chain rule (the eight first-chain
switches may differ as in `conservative_extension`). -/
theorem strikethrough_conservative (cls : QCls) (ext : IExt) (lx : LExt) (text emphasis fragJoin : Bool) (a b : Sw) (mn : Int) (d : Nat)
    (src : List Char) (h : Clean a b src) (hnp : NoPair src) :
    inlineParse (chainOf cls ext lx text false emphasis fragJoin a mn d) (imgPost false emphasis) fragJoin mn src
      = inlineParse (chainOf cls ext lx text true emphasis fragJoin b mn d) (imgPost true emphasis) fragJoin mn src :=
  any_two_configurations cls ext lx text fragJoin ⟨a, false, emphasis⟩ ⟨b, true, emphasis⟩ mn d src
    ⟨h, fun _ => hnp, fun hd => absurd rfl hd⟩

/-! non-vacuity: a source with a link, a code span, an escape and a single tilde; the two configurations differ in emphasis,
strikethrough, image, autolink, html_inline and entity -/
example : CleanC ⟨⟨true, true, true, true, false, false, false, false⟩, false, false⟩ ⟨⟨true, true, true, true, true, true, true, true⟩, true, true⟩
    "[a](b) `c` \\+ ~d".toList := by
  -- the first four switches agree; `!`, `<`, `&`, `~~`, `*`, `_` do not occur
  exact ⟨⟨fun h => absurd rfl h, fun h => absurd rfl h, fun h => absurd rfl h, fun h => absurd rfl h,
      fun _ => by decide +kernel, fun _ => by decide +kernel, fun _ => by decide +kernel, fun _ => by decide +kernel⟩,
    fun _ => by unfold NoPair; decide +kernel, fun _ => by decide +kernel⟩

def cfgOf (ic : ICfg) : Cfg :=
  { sw := ⟨ic.newline, ic.escape, ic.backticks, ic.link, ic.image, ic.autolink, ic.htmlInline, ic.entity⟩, strike := ic.strike, emphasis := ic.emphasis }

theorem inlineOf_eq (cls : QCls) (ext : IExt) (lx : LExt) (ic : ICfg) (mn : Int) (d : Nat) :
    inlineOf cls ext lx ic mn d = inlineParse (chainC cls ext lx ic.text ic.fragJoin (cfgOf ic) mn d) (imgPost ic.strike ic.emphasis) ic.fragJoin mn := rfl

/-- **C10.full_conservative** — the clause at the level of `MarkdownIt.parse`: two inline configurations that differ in their ten
switchable rules give the same result of the whole parse whenever the *content of every inline token* of the block parse holds no
trigger of a rule enabled in exactly one of them (the block parse does not depend on the inline configuration). -/
theorem full_conservative (cls : QCls) (ext : IExt) (lx : LExt) (bc : MCfg) (ia ib : ICfg) (ht : ia.text = ib.text) (hf : ia.fragJoin = ib.fragJoin)
    (hi : ia.inlineOn = ib.inlineOn) (hj : ia.textJoinOn = ib.textJoinOn) (ws : List Nat) (mn : Int) (d : Nat) (src : List Char)
    (hclean : ∀ bts, mParse bc ws mn src = .ok bts → ∀ t ∈ bts, t.type = "inline" → CleanC (cfgOf ia) (cfgOf ib) t.content.toList) :
    fullParse cls ext lx bc ia ws mn d src = fullParse cls ext lx bc ib ws mn d src := by
  unfold fullParse
  cases hb : mParse bc ws mn src with
  | error e => rfl
  | ok bts =>
    refine coreTail_congr hi hj fun t htm hty => ?_
    rw [inlineOf_eq, inlineOf_eq, ← ht, ← hf]
    exact any_two_configurations cls ext lx ia.text ia.fragJoin (cfgOf ia) (cfgOf ib) mn d t.content.toList (hclean bts hb t htm hty)

end MdIt.C10
