import MdIt.Props.C01j
/-!
# C10 (continued) — conservative extension: chains that are extensions of each other

Switching a rule on changes nothing on inputs that hold none of its trigger characters.  Over two chains that are extensions of each
other on a source `S` (`Ext`), `runChain` and `skipToken` return the same on every state of the contracts' context (`Ctx S`), which
the left chain keeps by its two-mode contract: `Ctx S` is an invariant of the walk of `Proofs/LinkWalk` over the two chains, so the
`link` and the `image` rule agree.  A rule is inert on a source without its trigger character.
-/
namespace MdIt.C10
open MdIt.C01

def AgreeAt (S : List Char) (r r' : IRule) : Prop := ∀ s silent, ICtx s → CacheOK s → s.src = S → r s silent = r' s silent

def InertAt (S : List Char) (r : IRule) : Prop := ∀ s silent, ICtx s → CacheOK s → s.src = S → r s silent = .ok (false, s)

/-- `l'` is `l` up to rules that are inert on `S` (on either side) and rules replaced by ones agreeing on `S` -/
inductive Ext (S : List Char) : List IRule → List IRule → Prop
  | nil : Ext S [] []
  | both {r r' l l'} : AgreeAt S r r' → Ext S l l' → Ext S (r :: l) (r' :: l')
  | left {r l l'} : InertAt S r → Ext S l l' → Ext S (r :: l) l'
  | right {r' l l'} : InertAt S r' → Ext S l l' → Ext S l (r' :: l')

theorem Ext.append {S : List Char} {a a' b b' : List IRule} (h1 : Ext S a a') (h2 : Ext S b b') : Ext S (a ++ b) (a' ++ b') := by
  induction h1 with
  | nil => exact h2
  | both hr _ ih => exact .both hr ih
  | left hr _ ih => exact .left hr ih
  | right hr _ ih => exact .right hr ih

theorem runChain_ext {S : List Char} {l l' : List IRule} (hE : Ext S l l') : (∀ r ∈ l, IOK4 r) → ∀ s, ICtx s → CacheOK s → s.src = S →
    runChain l s = runChain l' s := by
  induction hE with
  | nil => intro _ s _ _ _; rfl
  | @both r r' l l' hr _ ih =>
    intro hok s hc hk hs
    obtain ⟨m, s1, h1, hret⟩ := hok r (by simp) s false hc hk
    simp only [runChain, ← hr s false hc hk hs, h1]
    cases m with
    | true => rfl
    | false => exact ih (fun q hq => hok q (by simp [hq])) s1 (ictx_of_ret hc hret) hret.fr.cache (hret.fr.src.trans hs)
  | @left r l l' hr _ ih =>
    intro hok s hc hk hs
    simp only [runChain, hr s false hc hk hs]
    exact ih (fun q hq => hok q (by simp [hq])) s hc hk hs
  | @right r' l l' hr _ ih =>
    intro hok s hc hk hs
    simp only [runChain, hr s false hc hk hs]
    exact ih hok s hc hk hs

/-- the context of the contracts on the source `S`, as the engine's walks keep it -/
def Ctx (S : List Char) (x : IState) : Prop := x.posMax ≤ x.src.length ∧ CacheOK x ∧ x.src = S

theorem runInv_ext {S : List Char} {l l' : List IRule} (hE : Ext S l l') (hok : ∀ r ∈ l, IOK4 r) (e : Nat) :
    RunInv l l' e (fun x => x.posMax = e ∧ Ctx S x) where
  char _ _ h := h
  flush _ h := h
  chain s := fun ⟨he, hend, hk, hs⟩ hlt => by
    have hc : ICtx s := ⟨he ▸ hlt, hend⟩
    refine ⟨runChain_ext hE hok s hc hk hs, fun a h => ?_⟩
    obtain ⟨m', t, h', hret⟩ := runChain4 l hok s hc hk
    rw [h] at h'; cases h'
    have hfr := hret.fr
    exact ⟨hfr.posMax.trans he, by rw [hfr.posMax, hfr.src]; exact hend, hfr.cache, hfr.src.trans hs⟩

theorem tokenizeLoop_ext {S : List Char} {l l' : List IRule} (hE : Ext S l l') (hok : ∀ r ∈ l, IOK4 r) (mn : Int) (e : Nat) :
    ∀ (fuel : Nat) (ok : Bool) (s : IState), e = s.posMax → s.posMax ≤ s.src.length → CacheOK s → s.src = S →
      tokenizeLoop l mn e fuel ok s = tokenizeLoop l' mn e fuel ok s :=
  fun fuel ok s he hend hk hs => (tokenizeLoop_same (runInv_ext hE hok e) mn fuel ok s ⟨he.symm, hend, hk, hs⟩).1

theorem Ext.down {S : List Char} {l l' : List IRule} (hE : Ext S l l') : Ext S (l.map silentDown) (l'.map silentDown) := by
  have inert : ∀ {r}, InertAt S r → InertAt S (silentDown r) := fun hr s _ hc hk hs => by
    have hc' : ICtx { s with level := s.level + 1 } := hc
    rw [silentDown, hr { s with level := s.level + 1 } true hc' hk hs]
    -- one level down and back up is the same state
    congr 2
    cases s; simp
  induction hE with
  | nil => exact .nil
  | both hr _ ih =>
    refine .both (fun s _ hc hk hs => ?_) ih
    have hc' : ICtx { s with level := s.level + 1 } := hc
    rw [silentDown, silentDown, hr { s with level := s.level + 1 } true hc' hk hs]
  | left hr _ ih => exact .left (inert hr) ih
  | right hr _ ih => exact .right (inert hr) ih

theorem runSilent_ext {S : List Char} {l l' : List IRule} (hE : Ext S l l') (hok : ∀ r ∈ l, IOK4 r) (s : IState) (hc : ICtx s)
    (hk : CacheOK s) (hs : s.src = S) : runSilent l s = runSilent l' s := by
  rw [runSilent_eq, runSilent_eq]
  exact runChain_ext hE.down (forall_mem_down fun r hr => iok4_down (hok r hr)) s hc hk hs

theorem skipToken_ext {S : List Char} {l l' : List IRule} (hE : Ext S l l') (hok : ∀ r ∈ l, IOK4 r) (mn : Int) (s : IState) (hc : ICtx s)
    (hk : CacheOK s) (hs : s.src = S) : skipToken l mn s = skipToken l' mn s := by
  unfold skipToken
  split
  · rfl
  · by_cases hlv : s.level < mn
    · simp only [hlv, if_true, runSilent_ext hE hok s hc hk hs]
    · simp only [hlv, if_false]

theorem skipInv_ext {S : List Char} {l l' : List IRule} (hE : Ext S l l') (hok : ∀ r ∈ l, IOK4 r) (mn : Int) : SkipInv l l' mn (Ctx S) where
  pos _ _ h := h
  skip s := fun ⟨hend, hk, hs⟩ hlt => by
    refine ⟨skipToken_ext hE hok mn s ⟨hlt, hend⟩ hk hs, fun s' h => ?_⟩
    obtain ⟨t, h', hfr, _⟩ := skipToken4 l hok mn s ⟨hlt, hend⟩ hk
    rw [h] at h'; cases h'
    exact ⟨by show s'.posMax ≤ s'.src.length; rw [hfr.posMax, hfr.src]; exact hend, hfr.cache, hfr.src.trans hs⟩

theorem agree_link {S : List Char} {l l' : List IRule} (hE : Ext S l l') (hok : ∀ r ∈ l, IOK4 r) (ext : IExt) (lx : LExt) (mn : Int) :
    AgreeAt S (ruleLink ext lx mn l) (ruleLink ext lx mn l') := by
  intro s silent hc hk hs
  have h0 : Ctx S s := ⟨hc.2, hk, hs⟩
  rw [ruleLink_eq, ruleLink_eq]
  refine (bracket_same (Pl := fun _ => True) s silent (fun _ _ => trivial) h0 (linkFind_same (skipInv_ext hE hok mn) ext lx s h0)
    (fun s2 f _ h2 => ⟨h2.2.2 ▸ hs ▸ hc.2, h2.2.1, h2.2.2⟩) (fun s2 f hf h2 => ?_)).1
  -- the label found ends inside the source, so the run on it stays in the context
  obtain ⟨_, _, hf', _, _, hb⟩ := linkFind4 ext lx mn l hok s hc hk
  rw [hf] at hf'; cases hf'
  obtain ⟨o1, o2, _, _, o5, _⟩ := linkOpened_fields lx s2 (s.pos + 1) f.labelEnd f.href f.title f.label
  refine linkEmit_same lx mn s2 _ _ _ _ _ (runInv_ext hE hok f.labelEnd) ⟨o2, ?_, ?_, o1.trans h2.2.2⟩ (fun _ _ _ _ => trivial)
  · rw [o1, o2, h2.2.2, ← hs]; have := (hb f rfl).1; have := hc.2; omega
  · exact h2.2.1.of_eq o5

theorem imageEmit_ext {S : List Char} (lx : LExt) (parse parse' : List Char → Except PyErr (List Tok))
    (hparse : ∀ c : List Char, c <:+: S → parse c = parse' c) (s : IState) (labelStart labelEnd : Nat) (href title label : List Char)
    (hs : s.src = S) : imageEmit lx parse s labelStart labelEnd href title label = imageEmit lx parse' s labelStart labelEnd href title label := by
  unfold imageEmit
  simp only
  rw [hparse ((s.src.take labelEnd).drop labelStart) (by
    rw [← hs]
    exact (List.drop_suffix labelStart _).isInfix.trans (List.take_prefix labelEnd s.src).isInfix)]

theorem agree_image {S : List Char} {l l' : List IRule} (hE : Ext S l l') (hok : ∀ r ∈ l, IOK4 r) (ext : IExt) (lx : LExt) (mn : Int)
    (parse parse' : List Char → Except PyErr (List Tok)) (hparse : ∀ c : List Char, c <:+: S → parse c = parse' c) :
    AgreeAt S (ruleImage ext lx mn l parse) (ruleImage ext lx mn l' parse') := by
  intro s silent hc hk hs
  have h0 : Ctx S s := ⟨hc.2, hk, hs⟩
  rw [ruleImage_eq, ruleImage_eq]
  exact (bracket_same (Pl := fun _ => True) s silent (fun _ _ => trivial) h0 (imageFind_same (skipInv_ext hE hok mn) ext lx s h0)
    (fun s2 f _ h2 => ⟨h2.2.2 ▸ hs ▸ hc.2, h2.2.1, h2.2.2⟩)
    (fun s2 f _ h2 => ⟨imageEmit_ext lx parse parse' hparse s2 _ _ _ _ _ h2.2.2, fun _ _ => trivial⟩)).1

theorem cur_ne {S : List Char} {s : IState} (hc : ICtx s) (hs : s.src = S) (x : Char) (h : x ∉ S) :
    ∃ hin : s.pos < s.src.length, s.src[s.pos] ≠ x := by
  have hin : s.pos < s.src.length := by have := hc.1; have := hc.2; omega
  refine ⟨hin, fun he => h ?_⟩
  rw [← hs, ← he]
  exact List.getElem_mem hin

theorem inert_of_trigger {S : List Char} (x : Char) {r : IRule}
    (hr : ∀ (s : IState) silent (hin : s.pos < s.src.length), s.src[s.pos] ≠ x → r s silent = .ok (false, s)) (h : x ∉ S) : InertAt S r :=
  fun s silent hc _ hs => let ⟨hin, hne⟩ := cur_ne hc hs x h; hr s silent hin hne

theorem inert_newline {S : List Char} (h : '\n' ∉ S) : InertAt S ruleNewline :=
  inert_of_trigger '\n' (fun s silent hin hne => by unfold ruleNewline; rw [List.getElem?_eq_getElem hin]; simp [hne]) h

theorem inert_escape {S : List Char} (h : '\\' ∉ S) : InertAt S ruleEscape :=
  inert_of_trigger '\\' (fun s silent hin hne => by unfold ruleEscape; rw [List.getElem?_eq_getElem hin]; simp [hne]) h

theorem inert_backticks {S : List Char} (h : '`' ∉ S) : InertAt S ruleBackticks :=
  inert_of_trigger '`' (fun s silent hin hne => by unfold ruleBackticks; rw [List.getElem?_eq_getElem hin]; simp [hne]) h

theorem inert_link {S : List Char} (h : '[' ∉ S) (ext : IExt) (lx : LExt) (mn : Int) (inner : List IRule) : InertAt S (ruleLink ext lx mn inner) :=
  inert_of_trigger '[' (fun s silent hin hne => by unfold ruleLink; rw [List.getElem?_eq_getElem hin]; simp [hne]) h

theorem inert_image {S : List Char} (h : '!' ∉ S) (ext : IExt) (lx : LExt) (mn : Int) (inner : List IRule) (parse) :
    InertAt S (ruleImage ext lx mn inner parse) :=
  inert_of_trigger '!' (fun s silent hin hne => by unfold ruleImage; rw [List.getElem?_eq_getElem hin]; simp [hne]) h

theorem inert_autolink {S : List Char} (h : '<' ∉ S) (ext : IExt) : InertAt S (ruleAutolink ext) :=
  inert_of_trigger '<' (fun s silent hin hne => by unfold ruleAutolink; rw [List.getElem?_eq_getElem hin]; simp [hne]) h

theorem inert_htmlInline {S : List Char} (h : '<' ∉ S) (ext : IExt) : InertAt S (ruleHtmlInline ext) :=
  inert_of_trigger '<' (fun s silent hin hne => by
    have hb : (s.src[s.pos] != '<') = true := by simpa using hne
    simp only [ruleHtmlInline, List.getElem?_eq_getElem hin, hb, Bool.true_or, if_true, ite_self]) h

theorem inert_entity {S : List Char} (h : '&' ∉ S) (ext : IExt) : InertAt S (ruleEntity ext) :=
  inert_of_trigger '&' (fun s silent hin hne => by unfold ruleEntity; rw [List.getElem?_eq_getElem hin]; simp [hne]) h

theorem agree_refl (S : List Char) (r : IRule) : AgreeAt S r r := fun _ _ _ _ _ => rfl

theorem ext_opt {S : List Char} (b b' : Bool) (r r' : IRule) (hag : AgreeAt S r r') (hin : b ≠ b' → InertAt S r ∧ InertAt S r') :
    Ext S (if b then [r] else []) (if b' then [r'] else []) := by
  cases b <;> cases b'
  · exact .nil
  · exact .right (hin (by decide)).2 .nil
  · exact .left (hin (by decide)).1 .nil
  · exact .both hag .nil

theorem ext_leaf {S : List Char} {b b' : Bool} {r : IRule} (hin : b ≠ b' → InertAt S r) : Ext S (if b then [r] else []) (if b' then [r] else []) :=
  ext_opt b b' r r (agree_refl S r) fun h => ⟨hin h, hin h⟩

/-- the switches of the eight inline rules that have no second-chain part -/
structure Sw where
  newline : Bool
  escape : Bool
  backticks : Bool
  link : Bool
  image : Bool
  autolink : Bool
  htmlInline : Bool
  entity : Bool

/-- no character of `S` triggers a rule on which the two configurations differ -/
def Clean (a b : Sw) (S : List Char) : Prop :=
  (a.newline ≠ b.newline → '\n' ∉ S) ∧ (a.escape ≠ b.escape → '\\' ∉ S) ∧ (a.backticks ≠ b.backticks → '`' ∉ S)
  ∧ (a.link ≠ b.link → '[' ∉ S) ∧ (a.image ≠ b.image → '!' ∉ S) ∧ (a.autolink ≠ b.autolink → '<' ∉ S)
  ∧ (a.htmlInline ≠ b.htmlInline → '<' ∉ S) ∧ (a.entity ≠ b.entity → '&' ∉ S)

theorem Clean.sub {a b : Sw} {S c : List Char} (h : Clean a b S) (hinf : c <:+: S) : Clean a b c := by
  have hc : ∀ ch ∈ c, ch ∈ S := fun ch hch => hinf.subset hch
  obtain ⟨h1, h2, h3, h4, h5, h6, h7, h8⟩ := h
  exact ⟨fun x m => h1 x (hc _ m), fun x m => h2 x (hc _ m), fun x m => h3 x (hc _ m), fun x m => h4 x (hc _ m),
    fun x m => h5 x (hc _ m), fun x m => h6 x (hc _ m), fun x m => h7 x (hc _ m), fun x m => h8 x (hc _ m)⟩

abbrev chainOf (cls : QCls) (ext : IExt) (lx : LExt) (text strike emphasis fragJoin : Bool) (w : Sw) (mn : Int) (d : Nat) : List IRule :=
  imgChain cls ext lx text w.newline w.escape w.backticks strike emphasis w.link w.image w.autolink w.htmlInline w.entity fragJoin mn d

/-! non-vacuity: a source with links, emphasis and a code span but no `!`, `<`, `&`: switching `image`, `autolink`, `html_inline`,
`entity` on changes nothing (the hypothesis of `conservative_extension`, stated in `C10j`, is decided) -/
example : Clean ⟨true, true, true, true, false, false, false, false⟩ ⟨true, true, true, true, true, true, true, true⟩
    "[a *b*](/u \"t\") `c` \\* d\n".toList := by unfold Clean; decide

end MdIt.C10
