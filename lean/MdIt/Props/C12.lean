import MdIt.World
import MdIt.Proofs.Ruler
/-!
# C12 — a parse depends only on configuration, source and env: no hidden shared state

Model: `MdIt/World.lean`.  The parser is a parameter `P`; the theorems say what its inputs can be.
-/
namespace MdIt.C12

variable {Out : Type} (P : Config → String → Env → Out × Env)

theorem compileAll_config (x : Inst) :
    ({ x with rulers := compileAll x.rulers } : Inst).config = x.config := by
  simp only [Inst.config, compileAll, getRules_rules]

theorem setMany_rules (m m' : Rulers) (b : Bool) (ns : List String) (ig : Bool) (w : Which)
    (h : (m.get w).rules = (m'.get w).rules) :
    ((m.setMany b ns ig).1.get w).rules = ((m'.setMany b ns ig).1.get w).rules := by
  rw [setMany_get, setMany_get, enable_disable_eq, enable_disable_eq]
  show (enableLoop b true ns (m.get w).rules []).1 = (enableLoop b true ns (m'.get w).rules []).1
  rw [h]

theorem setMany_config (x y : Inst) (h : x.config = y.config) (b : Bool) (ns : List String) (ig : Bool) :
    ({ x with rulers := (x.rulers.setMany b ns ig).1 } : Inst).config
      = ({ y with rulers := (y.rulers.setMany b ns ig).1 } : Inst).config := by
  simp only [Inst.config, Config.mk.injEq] at h ⊢
  exact ⟨setMany_rules _ _ b ns ig .core h.1, setMany_rules _ _ b ns ig .block h.2.1,
    setMany_rules _ _ b ns ig .inline h.2.2.1, setMany_rules _ _ b ns ig .inline2 h.2.2.2.1, h.2.2.2.2⟩

theorem applyCfg_congr (x y : Inst) (h : x.config = y.config) (op : AOp) :
    (x.applyCfg op).config = (y.applyCfg op).config := by
  cases op with
  | construct | newEnv | parse => exact h
  | setOpt j r k v | addRenderRule j n f =>
    simp only [Inst.config, Config.mk.injEq] at h
    simp [Inst.applyCfg, Inst.setOpt, Inst.addRenderRule, Inst.config, h]
  | enable j ns ig => exact setMany_config x y h true ns ig
  | disable j ns ig => exact setMany_config x y h false ns ig

/-- the two histories are compared as lists of *functions* on instances: an operation carries the index of the instance it addresses,
    which differs between the two instances of `fresh_equiv` -/
theorem foldl_applyCfg_congr : ∀ (l l' : List AOp) (x y : Inst), x.config = y.config →
    l.map (fun op => fun z : Inst => z.applyCfg op) = l'.map (fun op => fun z : Inst => z.applyCfg op) →
    (l.foldl Inst.applyCfg x).config = (l'.foldl Inst.applyCfg y).config
  | [], [], _, _, h, _ => h
  | [], _ :: _, _, _, _, hl => by simp at hl
  | _ :: _, [], _, _, _, hl => by simp at hl
  | o :: os, o' :: os', x, y, h, hl => by
    simp only [List.map_cons, List.cons.injEq] at hl
    refine foldl_applyCfg_congr os os' _ _ ?_ hl.2
    rw [← congrFun hl.1 y]
    exact applyCfg_congr x y h o

theorem modify_config (l : List Inst) (f : Inst → Inst) (i j : Nat) (x : Inst) (hx : l[j]? = some x) :
    ∃ x', (l.modify i f)[j]? = some x' ∧ x'.config = if j == i then (f x).config else x.config := by
  refine ⟨if i = j then f x else x, by rw [List.getElem?_modify, hx]; rfl, ?_⟩
  by_cases h : i = j
  · simp [h]
  · simp [h, Ne.symm h]

/-- **C12.frame** — one API call changes the configuration of the instance it is addressed to, and
of no other: for every existing instance `j`, its configuration after the call is `applyCfg` of the
call if the call configures `j`, and unchanged otherwise (parses of any document on any instance,
constructions of other instances, calls on other instances). -/
theorem frame (w : World) (op : AOp) (j : Nat) (x : Inst) (hx : w.insts[j]? = some x) :
    ∃ x', (w.step P op).1.insts[j]? = some x' ∧
      x'.config = (if op.configures j then (x.applyCfg op).config else x.config) := by
  cases op with
  | construct p u =>
    simp only [World.step]
    cases construct p u with
    | ok i =>
      have hlt : j < w.insts.length := (List.getElem?_eq_some_iff.1 hx).1
      exact ⟨x, by simp [List.getElem?_append_left hlt, hx], rfl⟩
    | error e => exact ⟨x, hx, rfl⟩
  | newEnv => exact ⟨x, hx, rfl⟩
  | setOpt i r k v | enable i ns ig | disable i ns ig | addRenderRule i n f =>
    exact modify_config w.insts _ i j x hx
  | parse i src e =>
    simp only [World.step]
    cases w.insts[i]? with
    | none => exact ⟨x, hx, rfl⟩
    | some inst =>
      obtain ⟨x', h1, h2⟩ := modify_config w.insts (fun y => { y with rulers := compileAll y.rulers }) i j x hx
      exact ⟨x', h1, by rw [h2, compileAll_config, ite_self]; rfl⟩

/-- **C12.config_after_history** (function: configuration part) — after any history, the configuration of instance `j` is
what the configuration calls addressed to `j` make of it — whatever documents it or any other
instance parsed in between, whatever was done to other instances. -/
theorem config_after_history (w : World) (ops : List AOp) (j : Nat) (x : Inst)
    (hx : w.insts[j]? = some x) :
    ∃ x', (w.run P ops).insts[j]? = some x' ∧
      x'.config = ((ops.filter (·.configures j)).foldl Inst.applyCfg x).config := by
  induction ops generalizing w x with
  | nil => exact ⟨x, hx, rfl⟩
  | cons op ops ih =>
    obtain ⟨x1, h1, hc1⟩ := frame P w op j x hx
    obtain ⟨x2, h2, hc2⟩ := ih (w.step P op).1 x1 h1
    refine ⟨x2, h2, ?_⟩
    rw [hc2]
    by_cases hcf : op.configures j
    · simp only [List.filter_cons, hcf, if_true, List.foldl_cons]
      rw [if_pos hcf] at hc1
      exact foldl_applyCfg_congr _ _ _ _ hc1 rfl
    · simp only [List.filter_cons, hcf, Bool.false_eq_true, if_false]
      rw [if_neg hcf] at hc1
      exact foldl_applyCfg_congr _ _ _ _ hc1 rfl

/-- **C12.probe_function** (function) — the result of a probe parse on instance `j` after any history is
`P (configuration made by j's own configuration calls) src env`: a function of that configuration,
the source and the env passed (env omitted ≡ empty mapping). -/
theorem probe_function (w : World) (ops : List AOp) (j : Nat) (x : Inst) (hx : w.insts[j]? = some x)
    (src : String) (e : Option Nat) :
    ((w.run P ops).step P (.parse j src e)).2 =
      some (P ((ops.filter (·.configures j)).foldl Inst.applyCfg x).config src
        ((w.run P ops).envOf e)).1 := by
  obtain ⟨x', h1, hc⟩ := config_after_history P w ops j x hx
  simp only [World.step, h1, hc]

/-- **C12.fresh_equiv** (fresh) — hence it equals what a freshly constructed, identically configured instance
returns: two instances whose constructions agree and that received the same configuration calls
give the same result for the same source and env, whatever else happened to either. -/
theorem fresh_equiv (w w' : World) (ops ops' : List AOp) (j j' : Nat) (x x' : Inst)
    (hx : w.insts[j]? = some x) (hx' : w'.insts[j']? = some x') (hcfg : x.config = x'.config)
    (hsame : (ops.filter (·.configures j)).map (fun op => fun y : Inst => y.applyCfg op)
              = (ops'.filter (·.configures j')).map (fun op => fun y : Inst => y.applyCfg op))
    (src : String) :
    ((w.run P ops).step P (.parse j src none)).2 = ((w'.run P ops').step P (.parse j' src none)).2 := by
  rw [probe_function P w ops j x hx, probe_function P w' ops' j' x' hx']
  rw [foldl_applyCfg_congr _ _ x x' hcfg hsame]
  rfl

/-- env omitted ≡ a fresh empty mapping -/
theorem env_omitted (w : World) (j : Nat) (src : String) :
    (w.step P (.parse j src none)).2
      = (((w.step P .newEnv).1).step P (.parse j src (some w.envs.length))).2 := by
  simp only [World.step]
  cases w.insts[j]? with
  | none => rfl
  | some inst => simp [World.envOf]

/-- definitions never travel between calls unless the caller passes the same env: a call leaves
every env object other than the one it was given untouched -/
theorem env_frame (w : World) (op : AOp) (k : Nat) (hk : k < w.envs.length)
    (h : ∀ i src, op ≠ .parse i src (some k)) :
    (w.step P op).1.envs[k]? = w.envs[k]? := by
  cases op with
  | construct p u => simp only [World.step]; cases construct p u <;> rfl
  | setOpt | enable | disable | addRenderRule => rfl
  | newEnv => simp [World.step, List.getElem?_append_left hk]
  | parse i src e =>
    simp only [World.step]
    cases w.insts[i]? with
    | none => rfl
    | some inst =>
      cases e with
      | none => rfl
      | some k' =>
        have : k' ≠ k := fun e => h i src (by rw [e])
        simp [this]

/-- constructing an instance does not depend on the world: same preset and options ⇒ same instance
(the preset table is a constant of the model; that it is one in the code is what the tie's
snapshots of `_PRESETS` check) -/
theorem construct_deterministic (p : String) (u : List (String × OptVal)) (w w' : World) :
    ((w.step P (.construct p u)).1.insts.drop w.insts.length)
      = ((w'.step P (.construct p u)).1.insts.drop w'.insts.length) := by
  simp only [World.step]
  cases construct p u <;> simp

/-! non-vacuity -/
example : ∃ i, construct "commonmark" [("typographer", .b true)] = .ok i
    ∧ dictGet i.options "typographer" = some (.b true) ∧ dictGet i.options "html" = some (.b true) :=
  ⟨_, rfl, by decide, by decide⟩

end MdIt.C12
