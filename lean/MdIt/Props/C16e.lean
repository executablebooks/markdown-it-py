import MdIt.Props.C16d
import MdIt.Props.C05g
import MdIt.Props.C10p
/-!
# C16 (continued) — the env tables through the full chain (all eleven block rules)

Every rule of `tChain` — `table` included, which only pushes tokens and runs its terminator chain (`C05.keeps_table`) — keeps any
invariant of the env tables that the `reference` rule keeps (`C05.tChain_keeps_of`).  Instance here: first definition wins.
-/
namespace MdIt.C16
open MdIt.C05

theorem tChain_keepsJ {J : BState → Prop} (hJ : OnTables J) (ext : IExt) (lx : LExt) (c : TCfg) (ws : List Nat) (mn : Int)
    (hRef : ∀ terms : List BRule, (∀ t ∈ terms, Keeps J t) → Keeps J (ruleReference ext lx c.inlineDefs c.code terms ws)) :
    ∀ d : Nat, ∀ r ∈ tChain ext lx c ws mn d, Keeps J r :=
  tChain_keeps_of hJ ext lx c ws mn hRef

/-- **C16.tParse_first_wins** — with all eleven block rules in the model, the table a parse fills holds pairwise distinct labels, none of
them resolved by the seeded env -/
theorem tParse_first_wins (ext : IExt) (lx : LExt) (c : TCfg) (ws : List Nat) (mn : Int) (src : List Char) (s : BState)
    (h : tParse ext lx c ws mn src = .ok s) : FirstWins lx s := by
  have h0 : FirstWins lx (initBState (normalize src)) := by
    constructor
    · simp [initBState]
    · intro e he; exact absurd he (by simp [initBState])
  exact parse_keeps (firstWins_onTables lx)
    (tChain_keepsJ (firstWins_onTables lx) ext lx c ws mn (fun terms hts => keeps_reference_firstWins ext lx _ _ terms hts ws) _) mn src h0 s h

/-- **C16.rParse_first_wins** — the table a parse of the ten-rule chain fills holds pairwise distinct labels, none of them already
resolved by the env the parse was started with: the first definition of a label wins (later ones are recorded as duplicates), and a
seeded entry is never shadowed -/
theorem rParse_first_wins (ext : IExt) (lx : LExt) (c : RCfg) (ws : List Nat) (mn : Int) (src : List Char) (s : BState)
    (h : rParse ext lx c ws mn src = .ok s) : FirstWins lx s :=
  -- the ten-rule chain is the full chain with the table rule off
  tParse_first_wins ext lx ⟨c, false⟩ ws mn src s (by rw [C10.tParse_off ext lx ⟨c, false⟩ rfl]; exact h)

end MdIt.C16
