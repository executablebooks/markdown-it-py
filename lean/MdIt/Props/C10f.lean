import MdIt.Props.C10b
import MdIt.Props.C02h
/-!
# C10 (continued) — provenance for the block sub-parser with `html_block` and `lheading`

Every token kind in the stream of `mParse` is produced by an enabled rule, at any nesting depth — in particular `html_block` tokens
only with the `html_block` rule *and* the `html` option on (`m_no_html`: the parser side of C04's "html off ⇒ nothing raw reaches the
output" for block-level HTML), setext headings (`heading_open` with markup `=` / `-`) only with `heading` or `lheading` on.
-/
namespace MdIt.C10
open MdIt.C01 MdIt.C02

def mAllowed (c : MCfg) : List String :=
  lAllowed c.toMiniCfg ++ (if c.htmlBlock && c.html then ["html_block"] else [])
    ++ (if c.lheading then ["heading_open", "heading_close"] else [])

theorem lAllowed_sub_m (c : MCfg) : ∀ ty ∈ lAllowed c.toMiniCfg, ty ∈ mAllowed c :=
  fun _ h => List.mem_append_left _ (List.mem_append_left _ h)

theorem lTypes_to_m (c : MCfg) (P) (r : BRule) (h : SegOK P (TypesOf (lAllowed c.toMiniCfg)) r) : SegOK P (TypesOf (mAllowed c)) r :=
  types_mono h (lAllowed_sub_m c)

theorem allowed_sub_m (c : MCfg) : ∀ ty ∈ allowedTypes c.toMiniCfg, ty ∈ mAllowed c :=
  fun _ h => lAllowed_sub_m c _ (List.mem_append_left _ (List.mem_append_left _ h))

theorem typesOK_htmlBlock (P) (c : MCfg) (hon : c.htmlBlock = true) : SegOK P (TypesOf (mAllowed c)) (ruleHtmlBlock c.code c.html) :=
  C02.segOK_of_leaf (html_shape P c.code c.html) fun s _ _ _ _ _ ⟨_, hhtml, _, _, hseg⟩ t ht => by
    subst hseg; rw [List.mem_singleton] at ht; subst ht; simp [mAllowed, hon, hhtml]

theorem typesOK_lheadingE (P : BState → Nat → Prop) (c : MCfg) (hon : c.lheading = true) (terms : List BRule) (hin : ∀ t ∈ terms, SilentInertE t)
    (ws : List Nat) : SegOK P (TypesOf (mAllowed c)) (ruleLheading c.code terms ws) :=
  C02.segOK_of_leaf (lheading_shapeE P c.code terms hin ws) fun s _ _ _ _ _ ⟨_, _, _, _, _, _, hseg, _⟩ t ht => by
    subst hseg
    rcases mem_tripleToks_type ht with ht | ht | ht
    · simp [ht, mAllowed, hon]
    · simp [ht, mAllowed, lAllowed, qAllowed, allowedTypes]
    · simp [ht, mAllowed, hon]

theorem typesOK_leavesM (P : BState → Nat → Prop) (c : MCfg) {pt : List BRule} (hpt : ∀ t ∈ pt, SilentInertE t) (ws : List Nat) :
    ∀ r ∈ leavesM c pt ws, SegOK P (TypesOf (mAllowed c)) r :=
  forall_leavesM (fun r h => types_mono (typesOK_leaves P c.toMiniCfg hpt ws r h) (allowed_sub_m c)) (typesOK_htmlBlock _ c)
    (fun hc => typesOK_lheadingE _ c hc _ hpt ws)

/-- **C10.m_provenance** — every token kind in the stream of `mParse` is produced by an enabled rule, at any nesting depth -/
theorem m_provenance (c : MCfg) (ws : List Nat) (maxNesting : Int) (src : List Char) (ts : List Tok)
    (h : mParse c ws maxNesting src = .ok ts) : ∀ t ∈ ts, t.type ∈ mAllowed c := by
  obtain ⟨segs, hts, hS⟩ := mParse_segs (TypesOf (mAllowed c)) (typesOf_wrap fun _ h => lAllowed_sub_m c _ ((lAllowed_containers _).1 _ h))
    (typesOf_listWrap fun _ h => lAllowed_sub_m c _ ((lAllowed_containers _).2 _ h)) c ws maxNesting
    (typesOK_leavesM · c (inertE_of_inert (mTerminators_inert c ws maxNesting)) ws) src ts h
  exact toks_flatten hts hS

theorem m_no_html (c : MCfg) (ws : List Nat) (mn : Int) (src : List Char) (ts : List Tok) (hoff : (c.htmlBlock && c.html) = false)
    (h : mParse c ws mn src = .ok ts) : ∀ t ∈ ts, t.type ≠ "html_block" := by
  intro t ht he
  have := m_provenance c ws mn src ts h t ht
  rw [he] at this
  simp [mAllowed, lAllowed, qAllowed, allowedTypes, hoff] at this

theorem m_no_heading (c : MCfg) (ws : List Nat) (mn : Int) (src : List Char) (ts : List Tok) (h1 : c.heading = false) (h2 : c.lheading = false)
    (h : mParse c ws mn src = .ok ts) : ∀ t ∈ ts, t.type ≠ "heading_open" := by
  intro t ht he
  have := m_provenance c ws mn src ts h t ht
  rw [he] at this
  simp [mAllowed, lAllowed, qAllowed, allowedTypes, h1, h2] at this

end MdIt.C10
