import MdIt.Props.C02f
import MdIt.Props.C10e
/-!
# C02 (continued) — the inline stream with autolinks is well formed

`autolink` pushes an opening and a closing token, so "all tokens have nesting 0" is lost, but the three tokens are a balanced chunk and
the delimiter records stay as they are: the rule keeps `C02f.BalD`, as every other rule of the chain does, and the post-processing
invariant of `C02f` (`PostInv`) starts from `BalD`.
-/
namespace MdIt.C02f
open MdIt.C01 MdIt.C02 MdIt.C10

theorem xminiChain_keeps (cls : QCls) (ext : IExt) (c : IMiniCfg) (strike emphasis autolink htmlInline entity : Bool) :
    ∀ r ∈ xminiChain cls ext c strike emphasis autolink htmlInline entity, KeepsI BalD r := by
  refine xminiChain_forall (sminiChain_forall (iminiChain_forall (keepsB_of_leaf leaf_text fun _ _ h => h.elim)
        (fun _ => keepsB_of_leaf leaf_newline fun _ _ ⟨_, _, e⟩ _ => e ▸ rfl)
        (fun _ => keepsB_of_leaf leaf_escape fun _ _ h _ => by rcases h with rfl | ⟨_, _, rfl⟩ <;> rfl)
        (fun _ => keepsB_of_leaf leaf_backticks fun _ _ ⟨_, _, _, _, _, e⟩ _ => e ▸ rfl))
      (fun _ => keepsB_of_leaf (leaf_strike cls) fun _ _ h _ => by rcases h with rfl | ⟨_, _, rfl⟩ <;> rfl)
      (fun _ => keepsB_of_leaf (leaf_emphasis cls) fun _ _ ⟨_, _, _, _, _, e⟩ _ => e ▸ rfl))
    (fun _ => keepsB_of_leaf (leaf_autolink ext) fun _ op ⟨_, _, _, hm⟩ h => ?_)
    (fun _ => keepsB_of_leaf (leaf_htmlInline ext) fun _ _ ⟨_, _, e⟩ _ => e ▸ rfl)
    (fun _ => keepsB_of_leaf (leaf_entity ext) fun _ _ ⟨_, _, e⟩ _ => e ▸ rfl)
  simp only [autolinkOps, List.mem_cons, List.not_mem_nil, or_false] at hm
  rcases hm with rfl | rfl | rfl
  · exact (h.elim (fun e : "link_open" = "text" => absurd e (by decide)) (fun h => h rfl)).elim
  · rfl
  · exact (h.elim (fun e : "link_close" = "text" => absurd e (by decide)) (fun h => h rfl)).elim

/-- **C02f.xmini_wellformed** — the inline sub-parser with `emphasis` on and any subset of `newline`, `escape`, `backticks`,
`autolink`, `html_inline`, `entity` (eight of the twelve inline rules; strikethrough's lone-marker swap is not in the nesting
theorems): the stream — tokenize loop, `balance_pairs`, emphasis post-processing, `fragments_join` — is levelled from 0, balanced,
and `SyntaxTreeNode` builds -/
theorem xmini_wellformed (cls : QCls) (ext : IExt) (c : IMiniCfg) (autolink htmlInline entity : Bool) (maxNesting : Int) (src : List Char)
    (ts : List Tok)
    (h : inlineParse (xminiChain cls ext c false true autolink htmlInline entity) (sminiPost false true) true maxNesting src = .ok ts) :
    levelsOK 0 ts ∧ balancedFrom 0 ts = true ∧ ∃ f, buildTree ts = .ok f := by
  obtain ⟨s, htk, rfl⟩ := inlineParse_ok h
  exact post_wellformed s (tokenize_keepsI (fun s _ hq => balD_eq s _ rfl rfl hq) balD_pushPending
    (xminiChain_keeps cls ext c false true autolink htmlInline entity) maxNesting _ (balD_init src) s htk)

/-! non-vacuity: emphasis around and inside autolinks, an entity and raw HTML in between -/
example : C01.itypesOf (inlineParse (xminiChain asciiCls { entity := fun n => if n = "amp".toList then some ['&'] else none, reformat := id, normText := id, html := true }
      ⟨true, true, true⟩ false true true true true) (sminiPost false true) true 20 "*a <http://x.y> **b &amp; <i>c</i>** d*".toList)
    = some ["em_open", "text", "link_open", "text", "link_close", "text", "strong_open", "text", "text_special", "text", "html_inline", "text",
            "html_inline", "strong_close", "text", "em_close"] := by decide +kernel

end MdIt.C02f
