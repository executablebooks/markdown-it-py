import MdIt.Props.C07c
/-!
# C06 (continued) — the list-indent half of the container law: a third simulation, with a *column shift*

Two runs of the chains are related (`TR tt pp k n W lm li blk spre pre s s'`) when every line of the second is the corresponding
line of the first behind `W` extra characters that count as indentation (`IL W`), `blkIndent' = blkIndent + W`, `listIndent' =
listIndent + W` (or the top-level pair `-1` / `0`), lines are shifted by `n` and levels by `k`, and the token lists are
`spre ++ ts` and `pre ++ shift2 k n ts`: what the list rule sets up for the body of an item whose content column is `W`.  The
first run's `lineMax`, `listIndent` and `blkIndent` are parameters of the relation, so that a rule that keeps it also restores them.
Every comparison the modelled rules make (`sCount - blkIndent ≥ 4`, `sCount < blkIndent`, `sCount - listIndent ≥ 4`) and every
`getLines` cut (`indent + W` columns of `p ++ text` versus `indent` columns of `text`) is invariant under the shift.  Documents
are tab-free and contain no `>`, so that the quote rule declines everywhere (the exception the property names).  The rules and the
loop are the two-run lemmas of `Props/C06b` at this relation, the list rule `list_fwd` of `Props/C07c.lean` at its layout half.
-/
namespace MdIt.C06e
open MdIt.C01 MdIt.C06 MdIt.C07

/-- `l'` is `l` behind `W` more characters, none a tab, that count as indentation -/
structure IL (W : Nat) (l l' : BLine) : Prop where
  sc : l'.sCount = l.sCount + W
  tsh : l'.tShift = l.tShift + W
  txt : ∃ p : List Char, p.length = W ∧ '\t' ∉ p ∧ l'.text = p ++ l.text
  lf : l'.hasLF = l.hasLF

/-- related, or the same blank entry on both sides (the sentinel) -/
def ILs (W : Nat) (l l' : BLine) : Prop := IL W l l' ∨ (l' = l ∧ l.text = [] ∧ l.tShift = 0)

/-- line tables the column shift is proved for: no tab, no `>` (so that the quote rule declines everywhere), no negative `sCount` -/
def Good (ls : List BLine) : Prop := ∀ l ∈ ls, '\t' ∉ l.text ∧ '>' ∉ l.text ∧ 0 ≤ l.sCount

theorem IL.body {W l l'} (h : IL W l l') : l'.body = l.body := by
  obtain ⟨p, h1, _, h3⟩ := h.txt
  simp only [BLine.body, h3, h.tsh]
  rw [Nat.add_comm, ← List.drop_drop, ← h1, List.drop_left]

theorem IL.empty {W l l'} (h : IL W l l') : l'.empty = l.empty := by
  obtain ⟨p, h1, _, h3⟩ := h.txt
  simp only [BLine.empty, h3, h.tsh, List.length_append, h1]
  apply decide_eq_decide.2; omega

theorem ILs.empty {W l l'} (h : ILs W l l') : l'.empty = l.empty := by
  rcases h with h | ⟨h, _⟩
  · exact h.empty
  · rw [h]

theorem ILs.lf {W l l'} (h : ILs W l l') : l'.hasLF = l.hasLF := by
  rcases h with h | ⟨h, _⟩
  · exact h.lf
  · rw [h]

theorem cutGo_prefix (tShift bs indent : Nat) : ∀ (p chars : List Char) (i li : Nat), '\t' ∉ p → i + p.length ≤ tShift → li + p.length ≤ indent →
    cutGo tShift bs indent (p ++ chars) i li = cutGo tShift bs indent chars (i + p.length) (li + p.length) := by
  intro p
  induction p with
  | nil => intro chars i li _ _ _; rfl
  | cons c cs ih =>
    intro chars i li hnt h1 h2
    have hc : c ≠ '\t' := fun e => hnt (by simp [e])
    have hcs : '\t' ∉ cs := fun e => hnt (by simp [e])
    simp only [List.length_cons] at h1 h2
    have a1 : li < indent := by omega
    have a2 : i < tShift := by omega
    simp only [List.cons_append, cutGo, hc, if_false, a1, a2, if_true, List.length_cons]
    have e1 : i + (cs.length + 1) = i + 1 + cs.length := by omega
    have e2 : li + (cs.length + 1) = li + 1 + cs.length := by omega
    rw [e1, e2]
    split
    · exact ih _ _ _ hcs (by omega) (by omega)
    · exact ih _ _ _ hcs (by omega) (by omega)

theorem cutLineI_shift {W l l'} (h : IL W l l') (x : List Char) (hx : '\t' ∉ l.text ++ x) (indent : Int) (hi : 0 ≤ indent) :
    cutLineI (l'.text ++ x) l'.tShift l'.bs (indent + W) = cutLineI (l.text ++ x) l.tShift l.bs indent := by
  obtain ⟨p, h1, h2, h3⟩ := h.txt
  have n1 : ¬ (indent + (W : Int) < 0) := by omega
  have n2 : ¬ (indent < 0) := by omega
  simp only [cutLineI, n1, n2, if_false, cutLine, h3, h.tsh, List.append_assoc]
  have e : (indent + (W : Int)).toNat = indent.toNat + W := by omega
  rw [e, cutGo_prefix _ _ _ p _ 0 0 h2 (by omega) (by omega)]
  simp only [Nat.zero_add, h1]
  have := cutGo_shift l.tShift l.bs l'.bs indent.toNat W (l.text ++ x) 0 0 hx
  simp only [Nat.zero_add] at this
  rw [this]
  simp only
  have c1 : ((cutGo l.tShift l.bs indent.toNat (l.text ++ x) 0 0).2 + W > indent.toNat + W)
      = ((cutGo l.tShift l.bs indent.toNat (l.text ++ x) 0 0).2 > indent.toNat) := propext ⟨fun h => by omega, fun h => by omega⟩
  have e2 : (cutGo l.tShift l.bs indent.toNat (l.text ++ x) 0 0).2 + W - (indent.toNat + W)
      = (cutGo l.tShift l.bs indent.toNat (l.text ++ x) 0 0).2 - indent.toNat := by omega
  simp only [c1, e2]

theorem cutLineI_blank (x : List Char) (hx : x = [] ∨ x = ['\n']) (bs : Nat) (a b : Int) (ha : 0 ≤ a) (hb : 0 ≤ b) :
    cutLineI x 0 bs a = cutLineI x 0 bs b := by
  have n1 : ¬ (a < 0) := by omega
  have n2 : ¬ (b < 0) := by omega
  rcases hx with hx | hx <;> subst hx
  · simp [cutLineI, n1, n2, cutLine, cutGo]
  · have hn : ('\n' : Char) ≠ '\t' := by decide
    have hs : ('\n' : Char) ≠ ' ' := by decide
    have key : ∀ ind : Nat, cutGo 0 bs ind ['\n'] 0 0 = (['\n'], 0) := by
      intro ind
      simp only [cutGo, hn, hs, if_false, Nat.lt_irrefl]
      split <;> rfl
    simp only [cutLineI, n1, n2, if_false, cutLine, key]
    simp

structure TR (tt pp : Bool) (k : Int) (n W lm : Nat) (li blk : Int) (spre pre : List Tok) (s s' : BState) : Prop where
  lines : ∀ i l, s.lines[i]? = some l → ∃ l', s'.lines[i + n]? = some l' ∧ ILs W l l' ∧ (i < lm → IL W l l')
  len : s'.lines.length = s.lines.length + n
  good : Good s.lines
  line : s'.line = s.line + n
  lm_eq : s.lineMax = lm
  lineMax : s'.lineMax = lm + n
  blk_eq : s.blkIndent = blk
  blk_nn : 0 ≤ blk
  blkIndent : s'.blkIndent = blk + W
  level : s'.level = s.level + k
  li_eq : s.listIndent = li
  listIndent : (0 ≤ li ∧ s'.listIndent = li + W) ∨ (li < 0 ∧ blk = 0 ∧ s'.listIndent = 0)
  tight : tt = true → s'.tight = s.tight
  parent : pp = true → s'.parentType = s.parentType
  tokens : ∃ ts, s.tokens = spre ++ ts ∧ s'.tokens = pre ++ ts.map (Tok.shift2 k n)

/-- the layout half of `TR`; the index `i = (li, blk)` holds the first run's `listIndent` and `blkIndent`, which change inside a list item -/
structure Fr (n W lm : Nat) (i : Int × Int) (f f' : Layout) : Prop where
  lines : ∀ x l, f.lines[x]? = some l → ∃ l', f'.lines[x + n]? = some l' ∧ ILs W l l' ∧ (x < lm → IL W l l')
  len : f'.lines.length = f.lines.length + n
  good : Good f.lines
  lm_eq : f.lineMax = lm
  lineMax : f'.lineMax = lm + n
  blk_eq : f.blkIndent = i.2
  blk_nn : 0 ≤ i.2
  blkIndent : f'.blkIndent = i.2 + W
  li_eq : f.listIndent = i.1
  listIndent : (0 ≤ i.1 ∧ f'.listIndent = i.1 + W) ∨ (i.1 < 0 ∧ i.2 = 0 ∧ f'.listIndent = 0)

theorem TR_eq (tt pp : Bool) (k : Int) (n W lm : Nat) (li blk : Int) (spre pre : List Tok) :
    TR tt pp k n W lm li blk spre pre = Rel (Fr n W lm) (li, blk) tt pp k n spre pre := by
  funext s s'
  exact propext ⟨fun h => ⟨⟨h.lines, h.len, h.good, h.lm_eq, h.lineMax, h.blk_eq, h.blk_nn, h.blkIndent, h.li_eq, h.listIndent⟩,
      ⟨h.line, h.level, h.tight, h.parent, h.tokens⟩⟩,
    fun ⟨f, r⟩ => ⟨f.lines, f.len, f.good, r.line, f.lm_eq, f.lineMax, f.blk_eq, f.blk_nn, f.blkIndent, r.level, f.li_eq, f.listIndent,
      r.tight, r.parent, r.tokens⟩⟩

theorem Fr.setLine {n W lm i f f'} (h : Fr n W lm i f f') (x : Nat) {a a' : BLine} (hz : IL W a a')
    (ha : '\t' ∉ a.text ∧ '>' ∉ a.text ∧ 0 ≤ a.sCount) {j : Int × Int} {b b' li li' : Int} (hb : b = j.2) (hnn : 0 ≤ j.2) (hb' : b' = j.2 + W)
    (hli : li = j.1) (hli' : (0 ≤ j.1 ∧ li' = j.1 + W) ∨ (j.1 < 0 ∧ j.2 = 0 ∧ li' = 0)) :
    Fr n W lm j ⟨f.lines.set x a, f.lineMax, b, li⟩ ⟨f'.lines.set (x + n) a', f'.lineMax, b', li'⟩ := by
  refine ⟨?_, ?_, fun l hl => (List.mem_or_eq_of_mem_set hl).elim (h.good l) (fun e => e ▸ ha), h.lm_eq, h.lineMax, hb, hnn, hb', hli, hli'⟩
  · intro y l hl
    show ∃ l', (f'.lines.set (x + n) a')[y + n]? = some l' ∧ _
    have hl' : (f.lines.set x a)[y]? = some l := hl
    by_cases hx : x = y
    · subst hx
      have hlen : x < f.lines.length := by
        have := (List.getElem?_eq_some_iff.1 hl').1
        simpa using this
      rw [List.getElem?_set_self hlen] at hl'
      simp only [Option.some.injEq] at hl'
      subst hl'
      refine ⟨a', ?_, Or.inl hz, fun _ => hz⟩
      exact List.getElem?_set_self (by rw [h.len]; omega)
    · rw [List.getElem?_set_ne hx] at hl'
      obtain ⟨l', a1, a2, a3⟩ := h.lines y l hl'
      refine ⟨l', ?_, a2, a3⟩
      rw [List.getElem?_set_ne (by omega)]
      exact a1
  · show (f'.lines.set (x + n) a').length = (f.lines.set x a).length + n
    simp [h.len]

section
variable {tt pp : Bool} {k : Int} {n W lm : Nat} {li blk : Int} {spre pre : List Tok} {s s' : BState}

theorem TR.setParent (h : TR tt pp k n W lm li blk spre pre s s') (pp0 : Bool) (p p' : String) (hp : pp0 = true → p' = p) :
    TR tt pp0 k n W lm li blk spre pre { s with parentType := p } { s' with parentType := p' } := by
  rw [TR_eq] at h ⊢; exact ⟨h.1, h.2.setParent pp0 p p' hp⟩

theorem TR.rebase (h : TR tt pp k n W lm li blk spre pre s s') : TR tt pp k n W lm li blk s.tokens s'.tokens s s' := by
  rw [TR_eq] at h ⊢; exact ⟨h.1, h.2.rebase⟩

theorem TR.pushRebase (h : TR tt pp k n W lm li blk spre pre s s') (a b : String) (ne : Int) (m m' c d e f) :
    TR tt pp k n W lm li blk (s.pushFull a b ne m c d e f).tokens (s'.pushFull a b ne m' c d e f).tokens (s.pushFull a b ne m c d e f) (s'.pushFull a b ne m' c d e f) := by
  rw [TR_eq] at h ⊢; exact ⟨h.1, h.2.pushRebase a b ne m m' c d e f⟩

def ilView (W lm : Nat) : LinesRel where
  W := W
  Rng i := i < lm
  L l l' := IL W l l' ∧ '\t' ∉ l.text ∧ '>' ∉ l.text ∧ 0 ≤ l.sCount
  Lw l l' := ILs W l l' ∧ '\t' ∉ l.text
  body h := h.1.body
  sc h := h.1.sc
  tsh h := h.1.tsh
  notab h := h.2.1
  nn h := .inr h.2.2.2
  wk h := ⟨.inl h.1, h.2.1⟩
  empty h := h.1.empty
  lf h := h.1.lf
  cut := by
    intro l l' x indent h hx hi
    have hnt : '\t' ∉ l.text ++ x := fun hm => by
      rcases List.mem_append.1 hm with hm | hm
      · exact h.2 hm
      · rcases hx with e | e <;> simp [e] at hm
    rcases hi with rfl | hi
    · rcases h.1 with hz | ⟨e1, _, _⟩
      · obtain ⟨p, h1, _, h3⟩ := hz.txt
        obtain rfl : p = [] := List.eq_nil_of_length_eq_zero h1
        rw [h3, hz.tsh, List.nil_append, Nat.add_zero, show indent + ((0 : Nat) : Int) = indent by simp]
        exact cutLineI_notab _ l.tShift l'.bs l.bs indent hnt
      · rw [e1, show indent + ((0 : Nat) : Int) = indent by simp]
    · rcases h.1 with hz | ⟨e1, e2, e3⟩
      · exact cutLineI_shift hz x hnt indent hi
      · rw [e1, e2, e3]
        exact cutLineI_blank _ hx _ _ _ (by omega) hi

theorem Fr.reads {n W lm i} {s s' : BState} (h : Fr n W lm i s.layout s'.layout) : Reads (ilView W lm) n s s' := by
  refine ⟨fun x l hl => ?_, fun x hl => ?_, by rw [show s'.lineMax = _ from h.lineMax, show s.lineMax = _ from h.lm_eq],
    by rw [show s'.blkIndent = _ from h.blkIndent, show s.blkIndent = _ from h.blk_eq]; rfl,
    .inr (by rw [show s.blkIndent = _ from h.blk_eq]; exact h.blk_nn)⟩
  · obtain ⟨l', h1, h2, h3⟩ := h.lines x l hl
    obtain ⟨g1, g2, g3⟩ := h.good l (List.mem_of_getElem? hl)
    exact ⟨l', h1, ⟨h2, g1⟩, fun hi => ⟨h3 hi, g1, g2, g3⟩⟩
  · rw [List.getElem?_eq_none_iff] at hl ⊢
    rw [show s'.lines.length = _ from h.len]; exact Nat.add_le_add_right hl n

theorem TR.reads (h : TR tt pp k n W lm li blk spre pre s s') : Reads (ilView W lm) n s s' :=
  Fr.reads (TR_eq .. ▸ h).1

theorem TR.lockstep (tt pp : Bool) (k : Int) (n W lm : Nat) (li blk : Int) (spre pre : List Tok) :
    Lockstep (ilView W lm) n tt (TR tt pp k n W lm li blk spre pre) :=
  TR_eq tt pp k n W lm li blk spre pre ▸ Rel.lockstep Fr.reads (li, blk) tt pp k spre pre

end

def ShSim (k : Int) (n W : Nat) (r r' : BRule) : Prop :=
  ∀ tt pp lm li blk spre pre s s' line endLine silent m t, TR tt pp k n W lm li blk spre pre s s' → (silent = true → pp = true) →
    line < endLine → endLine ≤ lm →
    r s line endLine silent = .ok (m, t) →
    ∃ t', r' s' (line + n) (endLine + n) silent = .ok (m, t') ∧ TR tt pp k n W lm li blk spre pre t t'

macro "sh_same" h:ident hsr:term : tactic =>
  `(tactic| (simp only [Except.ok.injEq, Prod.mk.injEq] at $h:ident; obtain ⟨h1, h2⟩ := $h:ident; subst h1; subst h2; exact ⟨_, rfl, $hsr⟩))

theorem ShSim.of {k n W} {r r' : BRule}
    (h : ∀ {tt pp lm li blk spre pre} (s s' : BState) (line endLine : Nat) (silent : Bool), TR tt pp k n W lm li blk spre pre s s' → (silent = true → pp = true) →
      line < endLine → endLine ≤ lm →
      RuleFwd (TR tt pp k n W lm li blk spre pre) (r s line endLine silent) (r' s' (line + n) (endLine + n) silent)) : ShSim k n W r r' :=
  fun _ _ _ _ _ _ _ s s' line endLine silent _ _ hsr hsil hlt hle hq => (h s s' line endLine silent hsr hsil hlt hle).toRule hq

theorem ShSim.fwd {k n W} {r r' : BRule} (h : ShSim k n W r r') {tt pp lm li blk spre pre s s'} (line endLine : Nat) (silent : Bool)
    (hsr : TR tt pp k n W lm li blk spre pre s s') (hsil : silent = true → pp = true) (hlt : line < endLine) (hle : endLine ≤ lm) :
    RuleFwd (TR tt pp k n W lm li blk spre pre) (r s line endLine silent) (r' s' (line + n) (endLine + n) silent) :=
  Fwd.ofRule fun m t hq => h tt pp lm li blk spre pre s s' line endLine silent m t hsr hsil hlt hle hq

theorem sh_hr (k : Int) (n W : Nat) (codeOn : Bool) : ShSim k n W (ruleHr codeOn) (ruleHr codeOn) :=
  .of fun _ _ line endLine silent hsr _ hlt hle => hr_fwd (TR.lockstep ..) codeOn hsr line endLine silent (show line < _ by omega)

theorem sh_heading (k : Int) (n W : Nat) (codeOn : Bool) (ws : List Nat) : ShSim k n W (ruleHeading codeOn ws) (ruleHeading codeOn ws) :=
  .of fun _ _ line endLine silent hsr _ hlt hle => heading_fwd (TR.lockstep ..) codeOn ws hsr line endLine silent (show line < _ by omega)

theorem sh_code (k : Int) (n W : Nat) (codeOn : Bool) : ShSim k n W (ruleCode codeOn) (ruleCode codeOn) :=
  .of fun _ _ line endLine silent hsr _ hlt hle =>
    code_fwd (TR.lockstep ..) codeOn hsr line endLine silent (show line < _ by omega) (fun _ hi => show _ < _ by omega)

theorem sh_fence (k : Int) (n W : Nat) (codeOn : Bool) : ShSim k n W (ruleFence codeOn) (ruleFence codeOn) :=
  .of fun _ _ line endLine silent hsr _ hlt hle =>
    fence_fwd (TR.lockstep ..) codeOn hsr line endLine silent (show line < _ by omega) (fun _ hi => show _ < _ by omega)

inductive ShSims (k : Int) (n W : Nat) : List BRule → List BRule → Prop where
  | nil : ShSims k n W [] []
  | cons {r r' rs rs'} : ShSim k n W r r' → ShSims k n W rs rs' → ShSims k n W (r :: rs) (r' :: rs')

theorem ShSims.append {k n W} {a a' b b' : List BRule} (h1 : ShSims k n W a a') (h2 : ShSims k n W b b') : ShSims k n W (a ++ b) (a' ++ b') := by
  induction h1 with
  | nil => exact h2
  | cons hr _ ih => exact .cons hr ih

theorem ShSims.opt {k n W} (c : Bool) {r r' : BRule} (h : ShSim k n W r r') : ShSims k n W (if c then [r] else []) (if c then [r'] else []) := by
  cases c
  · exact .nil
  · exact .cons h .nil

theorem ShSims.chain {k n W} {rs rs' : List BRule} (hs : ShSims k n W rs rs') (tt pp : Bool) (lm : Nat) (li blk : Int) (spre pre : List Tok) (silent : Bool)
    (hp : silent = true → pp = true) :
    ChainFwd (fun line endLine => line < endLine ∧ endLine ≤ lm) n (TR tt pp k n W lm li blk spre pre) silent rs rs' := by
  induction hs with
  | nil => exact .nil
  | cons hr _ ih => exact .cons (fun line endLine hc h => hr.fwd line endLine silent h hp hc.1 hc.2) ih

theorem sh_paragraph (k : Int) (n W : Nat) {ts ts' : List BRule} (hs : ShSims k n W ts ts') (ws : List Nat) :
    ShSim k n W (ruleParagraph ts ws) (ruleParagraph ts' ws) :=
  .of fun s s' line endLine silent hsr _ _ _ =>
    paragraph_fwd (TR.lockstep _ true ..) (hs.chain _ true _ _ _ _ _ true (fun _ => rfl)) ws line endLine silent
      (by rw [hsr.lineMax, hsr.lm_eq]) (fun i hi => ⟨show i < _ by rw [← hsr.lm_eq]; exact hi, hi, by rw [hsr.lm_eq]; exact Nat.le_refl _⟩)
      (hsr.setParent true _ _ (fun _ => rfl)) (fun h => h.setParent _ _ _ hsr.parent)

/-- a run of the empty chain that returns left the loop before any dispatch, so any chain returns the same -/
theorem blockLoop_nil (rs : List BRule) (mn : Int) (endLine fuel line : Nat) (he : Bool) (s : BState) :
    Fwd Eq (blockLoop [] mn endLine fuel line he s) (blockLoop rs mn endLine fuel line he s) := by
  cases fuel with
  | zero => exact fun t ht => ⟨t, ht, rfl⟩
  | succ f =>
    unfold blockLoop
    refine Fwd.ite Iff.rfl (fun _ => ?_) (fun _ => Fwd.ok rfl)
    generalize skipEmptyLines s (s.lineMax + 1) line = line1
    refine Fwd.ite Iff.rfl (fun _ => Fwd.ok rfl) (fun _ => ?_)
    cases s.lines[line1]? with
    | none => exact Fwd.error
    | some l =>
      refine Fwd.ite Iff.rfl (fun _ => Fwd.ok rfl) (fun _ => ?_)
      refine Fwd.ite Iff.rfl (fun _ => Fwd.ok rfl) (fun _ => ?_)
      -- the empty chain matches nothing: no progress
      simp only [runBlockChain, Nat.le_refl, ↓reduceIte]
      exact Fwd.error

theorem blockLoop_sh {k n W} {rules rules' : List BRule} (hs : ShSims k n W rules rules' ∨ rules = []) (mn : Int) (endLine : Nat) :
    ∀ (fuel line : Nat) (he he' : Bool) {tt pp lm li blk spre pre s s'} (t : BState), TR tt pp k n W lm li blk spre pre s s' → (tt = true → he' = he) → endLine ≤ lm →
      blockLoop rules mn endLine fuel line he s = .ok t →
      ∃ t', blockLoop rules' (mn + k) (endLine + n) fuel (line + n) he' s' = .ok t' ∧ TR tt pp k n W lm li blk spre pre t t' := by
  intro fuel line he he' tt pp lm li blk spre pre s s' t hsr hhe hle h
  have loop : ∀ {rs rs'}, ShSims k n W rs rs' → blockLoop rs mn endLine fuel line he s = .ok t →
      ∃ t', blockLoop rs' (mn + k) (endLine + n) fuel (line + n) he' s' = .ok t' ∧ TR tt pp k n W lm li blk spre pre t t' :=
    fun hs h => C06.blockLoop_fwd (TR.lockstep ..) (fun h => by rw [h.level]; omega) (hs.chain tt pp lm li blk spre pre false (fun h => by cases h))
      endLine (fun i hi => ⟨show i < lm by omega, hi, hle⟩) fuel line he he' hsr hhe t h
  rcases hs with hs | rfl
  · exact loop hs h
  · obtain ⟨t', h', ht⟩ := loop .nil h
    obtain ⟨_, h'', rfl⟩ := blockLoop_nil rules' _ _ _ _ _ _ t' h'
    exact ⟨_, h'', ht⟩

theorem blockTokenize_sh {k n W} {rules rules' : List BRule} (hs : ShSims k n W rules rules' ∨ rules = []) (mn : Int) {tt pp lm li blk spre pre s s'} (a b : Nat) (t : BState)
    (hsr : TR tt pp k n W lm li blk spre pre s s') (hle : b ≤ lm) (h : blockTokenize rules mn s a b = .ok t) :
    ∃ t', blockTokenize rules' (mn + k) s' (a + n) (b + n) = .ok t' ∧ TR tt pp k n W lm li blk spre pre t t' := by
  unfold blockTokenize at h ⊢
  rw [Nat.add_sub_add_right]
  exact blockLoop_sh hs mn b _ a false false t hsr (fun _ => rfl) hle h

theorem head_ne_gt (l : BLine) (h : '>' ∉ l.text) : (!l.body.head? == some '>') = true := by
  cases hb : l.body with
  | nil => rfl
  | cons c rest =>
    have hc : c ∈ l.text := by
      have : c ∈ l.body := by rw [hb]; simp
      exact List.mem_of_mem_drop this
    have : c ≠ '>' := fun e => h (e ▸ hc)
    simp [this]

theorem sh_quote (k : Int) (n W : Nat) (codeOn : Bool) (ts ts' inner inner' : List BRule) (mn mn' : Int) :
    ShSim k n W (ruleBlockquote codeOn ts inner mn) (ruleBlockquote codeOn ts' inner' mn') := by
  refine .of fun s s' line endLine silent hsr _ hlt hle => ?_
  cases hg : getL s line with
  | error e => rw [ruleBlockquote, hg]; exact Fwd.error
  | ok l =>
    obtain ⟨l', hg', hL⟩ := hsr.reads.getL (show line < _ by omega) hg
    rw [quote_declines _ _ _ _ _ _ _ _ hg (head_ne_gt l hL.2.2.1), quote_declines _ _ _ _ _ _ _ _ hg' (by rw [hL.1.body]; exact head_ne_gt l hL.2.2.1)]
    exact .same hsr

theorem IL.retab {W : Nat} {l l' : BLine} (hz : IL W l l') (a a' : Nat) (b b' : Int) (ha : a' = a + W) (hb : b' = b + W) :
    IL W (l.retab a b) (l'.retab a' b') :=
  ⟨hb, ha, hz.txt, hz.lf⟩

theorem Fr.listFrame (n W lm : Nat) : ListFrame (ilView W lm) n (Fr n W lm) where
  reads := Fr.reads
  liTest {_ s s' l l'} h hz := by
    -- `listIndent` is shifted like `blkIndent`, or is `-1` against `0` at top level, where `blkIndent` is `0`
    have h1 := h.blk_nn; have h2 : s.blkIndent = _ := h.blk_eq; have h3 : s.listIndent = _ := h.li_eq
    have h4 : s'.blkIndent = _ := h.blkIndent; have h5 := hz.1.sc; have h7 := hz.2.2.2
    rw [Bool.eq_iff_iff]
    simp only [Bool.and_eq_true, decide_eq_true_eq]
    rcases h.listIndent with ⟨_, h6⟩ | ⟨_, _, h6⟩ <;> (replace h6 : s'.listIndent = _ := h6; omega)
  item {i _ _ l l'} sl ta ta' b ind h hz hta hb hind := by
    obtain ⟨hil, hnt, hgt, hnn⟩ := hz
    refine ⟨(i.2, ind), h.setLine sl (hil.retab ta ta' b _ hta rfl) ⟨hnt, hgt, show 0 ≤ b by omega⟩ rfl (show 0 ≤ ind by omega) rfl h.blk_eq
      (.inl ⟨h.blk_nn, h.blkIndent⟩), fun hg hzc => ?_⟩
    refine hg.setLine sl (hzc.1.retab _ _ _ _ hil.tsh hil.sc) ⟨hzc.2.1, hzc.2.2.1, hnn⟩ hg.li_eq h.blk_nn ?_ h.li_eq h.listIndent
    rcases hg.listIndent with ⟨_, e⟩ | ⟨e, _⟩
    · exact e
    · exact absurd h.blk_nn (by omega)

theorem nested_sh {k n W} {inner inner' : List BRule} (hin : ShSims k n W inner inner' ∨ inner = []) (mn : Int) {endLine lm : Nat} (hle : endLine ≤ lm)
    {j : Int × Int} {pp spre pre y y'} (a : Nat) (h : Rel (Fr n W lm) j true pp k n spre pre y y') :
    Fwd (Rel (Fr n W lm) j true pp k n spre pre) (blockTokenize inner mn y a endLine) (blockTokenize inner' (mn + k) y' (a + n) (endLine + n)) := by
  rw [← TR_eq true pp k n W lm j.1 j.2 spre pre] at h ⊢
  exact fun t ht => blockTokenize_sh hin mn a endLine t h hle ht

theorem terms_sh {k n W} {terms terms' : List BRule} (hts : ShSims k n W terms terms') {lm : Nat} {j : Int × Int} {tt spre pre} :
    ChainFwd (fun line endLine => line < endLine ∧ endLine ≤ lm) n (Rel (Fr n W lm) j tt true k n spre pre) true terms terms' := by
  rw [← TR_eq tt true k n W lm j.1 j.2 spre pre]
  exact hts.chain tt true lm j.1 j.2 spre pre true (fun _ => rfl)

theorem listItem_sh {k n W} {inner inner' : List BRule} (hin : ShSims k n W inner inner' ∨ inner = []) (ordered : Bool) (markerChar : Char) (mn : Int)
    (endLine : Nat) {tt pp lm li blk spre pre s s'} (startLine markerLen : Nat) (s6 : BState) (nt pe : Bool) (hsr : TR tt pp k n W lm li blk spre pre s s')
    (hlt : startLine < endLine) (hle : endLine ≤ lm)
    (h : listItem ordered markerChar inner mn endLine s startLine markerLen = .ok (s6, nt, pe)) :
    ∃ s6', listItem ordered markerChar inner' (mn + k) (endLine + n) s' (startLine + n) markerLen = .ok (s6', nt, pe)
      ∧ TR tt pp k n W lm li blk spre pre s6 s6' := by
  rw [TR_eq] at hsr ⊢
  obtain ⟨⟨s6', _⟩, h', rfl, h6⟩ := listItem_fwd (Fr.listFrame n W lm) (nested_sh hin mn hle) ordered markerChar startLine markerLen
    (show startLine < lm by omega) hsr _ h
  exact ⟨s6', h', h6⟩

theorem sh_list (k : Int) (n W : Nat) (codeOn : Bool) {terms terms' inner inner' : List BRule} (hts : ShSims k n W terms terms')
    (hin : ShSims k n W inner inner' ∨ inner = []) (mn : Int) :
    ShSim k n W (ruleList codeOn terms inner mn) (ruleList codeOn terms' inner' (mn + k)) := by
  refine .of fun {tt pp lm li blk spre pre} s s' line endLine silent hsr hsil hlt hle => ?_
  rw [TR_eq] at hsr ⊢
  exact list_fwd (Fr.listFrame n W lm) (nested_sh hin mn hle) (terms_sh hts) (fun i hi => ⟨show i < lm by omega, hi, hle⟩) codeOn line silent
    (show line < lm by omega) hsr hsil

theorem lListTerms_shs (k : Int) (n W : Nat) (c : MiniCfg) (mn : Int) : ShSims k n W (lListTerms c mn) (lListTerms c (mn + k)) := by
  unfold lListTerms
  exact ((ShSims.opt c.fence (sh_fence k n W c.code)).append (.cons (sh_quote k n W c.code _ _ _ _ mn _) .nil)).append
    (ShSims.opt c.hr (sh_hr k n W c.code))

theorem lTerminators_shs (k : Int) (n W : Nat) (c : MiniCfg) (ws : List Nat) (mn : Int) :
    ShSims k n W (lTerminators c ws mn) (lTerminators c ws (mn + k)) := by
  unfold lTerminators
  exact ((((ShSims.opt c.fence (sh_fence k n W c.code)).append (.cons (sh_quote k n W c.code _ _ _ _ mn _) .nil)).append
    (ShSims.opt c.hr (sh_hr k n W c.code))).append (.cons (sh_list k n W c.code .nil (Or.inl .nil) mn) .nil)).append
    (ShSims.opt c.heading (sh_heading k n W c.code ws))

theorem lChain_shs (k : Int) (n W : Nat) (c : MiniCfg) (ws : List Nat) (mn : Int) : ∀ d : Nat,
    ShSims k n W (lChain c ws mn d) (lChain c ws (mn + k) (d + 1)) ∨ lChain c ws mn d = [] := by
  intro d
  induction d with
  | zero => exact Or.inr rfl
  | succ d ih =>
    refine Or.inl ?_
    unfold lChain
    exact ((((((ShSims.opt c.code (sh_code k n W c.code)).append (ShSims.opt c.fence (sh_fence k n W c.code))).append
      (.cons (sh_quote k n W c.code _ _ _ _ mn _) .nil)).append (ShSims.opt c.hr (sh_hr k n W c.code))).append
      (.cons (sh_list k n W c.code (lListTerms_shs k n W c mn) ih mn) .nil)).append
      (ShSims.opt c.heading (sh_heading k n W c.code ws))).append (.cons (sh_paragraph k n W (lTerminators_shs k n W c ws mn) ws) .nil)

end MdIt.C06e
