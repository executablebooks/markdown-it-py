import MdIt.Block
import MdIt.Inline
import MdIt.Proofs.InlineLoop
import MdIt.Proofs.BlockRules
import MdIt.Generated.Tables
/-!
# C01 — parsing and rendering are total: no input crashes or hangs the library

Engine-level theorems.  The two tokenizer loops are total (no exception, no `noProgress`) for every rule chain whose rules satisfy
their contracts (a block chain must also hold a rule that always matches); the contracts are what the harness monitors on every call
of every real rule (K1 no exception, K2 a miss changes nothing, K3 a match moves `state.line` forward, inside the line tables, K4
tables/indent/level restored) and what is proved for the rules modelled in Lean.
-/
namespace MdIt.C01

theorem skipEmptyLines_bounds (s : BState) (fuel from_ : Nat) :
    from_ ≤ skipEmptyLines s fuel from_ ∧ skipEmptyLines s fuel from_ ≤ max from_ s.lineMax := by
  fun_induction skipEmptyLines s fuel from_ <;> omega

theorem skipEmptyLines_stop (s : BState) (fuel from_ : Nat) (hlen : s.lineMax + 1 ≤ s.lines.length)
    (hf : s.lineMax - from_ < fuel) (h : skipEmptyLines s fuel from_ < s.lineMax) :
    ∃ l, s.lines[skipEmptyLines s fuel from_]? = some l ∧ l.empty = false := by
  fun_induction skipEmptyLines s fuel from_
  case case1 => omega  -- out of fuel
  case case2 ih => exact ih (by omega) h  -- a blank line
  case case3 l hl hne => exact ⟨l, hl, by simpa using hne⟩  -- a line that is not blank: the result
  case case4 hlt hl ih => rw [List.getElem?_eq_none_iff] at hl; omega  -- line not in the tables
  case case5 => omega  -- `lineMax` reached

theorem skipEmptyLines_fuel (s : BState) : ∀ (f f' from_ : Nat), s.lineMax - from_ < f → s.lineMax - from_ < f' →
    skipEmptyLines s f from_ = skipEmptyLines s f' from_ := by
  intro f f' fr h1 h2
  fun_induction skipEmptyLines s f fr generalizing f'
  case case1 => omega
  all_goals obtain _ | m' := f'
  any_goals omega
  case case2 hlt l hl he ih => simp only [skipEmptyLines, hlt, hl, he, if_true]; exact ih m' (by omega) (by omega)
  case case3 hlt l hl he => simp only [skipEmptyLines, hlt, hl, he, if_true]; rfl
  case case4 hlt hl ih => simp only [skipEmptyLines, hlt, hl, if_true]; exact ih m' (by omega) (by omega)
  case case5 hlt => simp only [skipEmptyLines, hlt, if_false]

theorem isEmpty_ok (s : BState) (i : Nat) (h : i < s.lines.length) : ∃ b, s.isEmpty (i : Int) = .ok b := by
  have h0 : ¬ ((i : Int) < 0) := by omega
  simp only [BState.isEmpty, idx, h0, if_false, Int.toNat_natCast, List.getElem?_eq_getElem h]
  exact ⟨_, rfl⟩

/-- the loop's look back at the last line of the block it has just parsed -/
theorem isEmpty_pred (s : BState) (endLine : Nat) {i : Nat} (h0 : 0 < i) (h : i ≤ s.lines.length) :
    ∃ b, (if (i : Int) - 1 < endLine then s.isEmpty ((i : Int) - 1) else .ok false) = .ok b := by
  split
  · have : (i : Int) - 1 = ((i - 1 : Nat) : Int) := by omega
    rw [this]; exact isEmpty_ok s _ (by omega)
  · exact ⟨_, rfl⟩

theorem frameEq_refl (s : BState) : s.FrameEq s := ⟨⟨rfl, rfl⟩, rfl, rfl, rfl⟩
theorem frameEq_trans {a b c : BState} (h1 : a.FrameEq b) (h2 : b.FrameEq c) : a.FrameEq c :=
  ⟨⟨h2.lines.trans h1.lines, h2.listIndent.trans h1.listIndent⟩, h2.lineMax.trans h1.lineMax, h2.blkIndent.trans h1.blkIndent,
    h2.level.trans h1.level⟩

theorem chain_ok (P : BState → Nat → Prop) (hP : FrameClosed P) (rules : List BRule) (hok : ∀ r ∈ rules, RuleOK P r)
    (s : BState) (line endLine : Nat) (hc : CallCtx P s line endLine) :
    ∃ m s', runBlockChain rules s line endLine = .ok (m, s') ∧ s.FrameEq s'
      ∧ (m = true → line < s'.line ∧ s'.line ≤ s.lineMax) ∧ (m = false → s'.line = s.line) := by
  induction rules generalizing s with
  | nil => exact ⟨false, s, rfl, frameEq_refl s, by simp, by simp⟩
  | cons r rest ih =>
    have hr := hok r (by simp)
    obtain ⟨m, s', hrs⟩ := hr.total s line endLine hc
    simp only [runBlockChain, hrs]
    cases m with
    | true => exact ⟨true, s', rfl, hr.frame _ _ _ _ _ hc hrs, fun _ => hr.progress _ _ _ _ hc hrs, by simp⟩
    | false =>
      have hfr := hr.frame _ _ _ _ _ hc hrs
      obtain ⟨m2, s2, h2, hf2, hp2, hm2⟩ := ih (fun q hq => hok q (by simp [hq])) s' (hc.transfer hP hfr (hr.miss _ _ _ _ hc hrs))
      refine ⟨m2, s2, h2, frameEq_trans hfr hf2, (by rw [← hfr.lineMax]; exact hp2), ?_⟩
      intro hm; rw [hm2 hm]; exact hr.miss _ _ _ _ hc hrs

theorem chain_matches (P : BState → Nat → Prop) (hP : FrameClosed P) (rules : List BRule) (hok : ∀ r ∈ rules, RuleOK P r)
    (hlast : ∃ r ∈ rules, AlwaysMatches P r)
    (s : BState) (line endLine : Nat) (hc : CallCtx P s line endLine) :
    ∃ s', runBlockChain rules s line endLine = .ok (true, s') := by
  induction rules generalizing s with
  | nil => obtain ⟨r, hr, _⟩ := hlast; cases hr
  | cons r rest ih =>
    have hr := hok r (by simp)
    obtain ⟨m, s', hrs⟩ := hr.total s line endLine hc
    simp only [runBlockChain, hrs]
    cases m with
    | true => exact ⟨s', rfl⟩
    | false =>
      obtain ⟨q, hq, hqa⟩ := hlast
      simp only [List.mem_cons] at hq
      rcases hq with rfl | hq
      · obtain ⟨s'', hs''⟩ := hqa s line endLine hc
        rw [hs''] at hrs; cases hrs
      · have hfr := hr.frame _ _ _ _ _ hc hrs
        exact ih (fun q' hq' => hok q' (by simp [hq'])) ⟨q, hq, hqa⟩ s' (hc.transfer hP hfr (hr.miss _ _ _ _ hc hrs))

theorem chain_hit (P : BState → Nat → Prop) (hP : FrameClosed P) (rules : List BRule) (hok : ∀ r ∈ rules, RuleOK P r)
    (hmiss : ∀ r ∈ rules, ∀ s line endLine s', CallCtx P s line endLine → r s line endLine false = .ok (false, s') → s'.tokens = s.tokens)
    (s : BState) (line endLine : Nat) (s' : BState) (hc : CallCtx P s line endLine)
    (h : runBlockChain rules s line endLine = .ok (true, s')) :
    ∃ r ∈ rules, ∃ s0, CallCtx P s0 line endLine ∧ s.FrameEq s0 ∧ s0.tokens = s.tokens ∧ r s0 line endLine false = .ok (true, s') := by
  induction rules generalizing s with
  | nil => cases h
  | cons r rest ih =>
    have hr := hok r (by simp)
    obtain ⟨m, s1, hrs⟩ := hr.total s line endLine hc
    simp only [runBlockChain, hrs] at h
    cases m with
    | true => cases h; exact ⟨r, by simp, s, hc, frameEq_refl s, rfl, hrs⟩
    | false =>
      have hfr := hr.frame _ _ _ _ _ hc hrs
      obtain ⟨q, hq, s0, hc0, hf0, ht0, hq0⟩ := ih (fun q hq => hok q (by simp [hq])) (fun q hq => hmiss q (by simp [hq])) s1
        (hc.transfer hP hfr (hr.miss _ _ _ _ hc hrs)) h
      exact ⟨q, by simp [hq], s0, hc0, frameEq_trans hfr hf0, ht0.trans (hmiss r (by simp) _ _ _ _ hc hrs), hq0⟩

theorem blockLoop_done (rules : List BRule) (mn : Int) (endLine fuel line : Nat) (he : Bool) (s : BState) (h : ¬ line < endLine) :
    blockLoop rules mn endLine fuel line he s = .ok s := by
  cases fuel <;> simp only [blockLoop, h, if_false]

/-- an iteration inside the range, up to the dispatch: from `l1`, the first line at or after `line` that is not blank, the loop returns
    (range over, or `l1` outdented), or is cut off by `maxNesting`, or `l1` is a line to dispatch on -/
theorem blockLoop_exits (rules : List BRule) (mn : Int) (endLine n line : Nat) (he : Bool) (s : BState)
    (hlen : s.lineMax + 1 ≤ s.lines.length) (hend : endLine ≤ s.lineMax) (hlt : line < endLine) :
    ∃ l1, skipEmptyLines s (s.lineMax + 1) line = l1 ∧ line ≤ l1 ∧ l1 ≤ s.lineMax ∧
      (((endLine ≤ l1 ∨ ∃ l, s.lines[l1]? = some l ∧ l.empty = false ∧ l.sCount < s.blkIndent) ∧
          blockLoop rules mn endLine (n + 1) line he s = .ok { s with line := l1 })
      ∨ (mn ≤ s.level ∧ blockLoop rules mn endLine (n + 1) line he s = .ok { s with line := endLine })
      ∨ (l1 < endLine ∧ s.level < mn ∧ ∃ l, s.lines[l1]? = some l ∧ l.empty = false ∧ s.blkIndent ≤ l.sCount)) := by
  have hsk := skipEmptyLines_bounds s (s.lineMax + 1) line
  have hstop := skipEmptyLines_stop s (s.lineMax + 1) line hlen (by omega)
  generalize hl1 : skipEmptyLines s (s.lineMax + 1) line = l1 at hsk hstop
  refine ⟨l1, rfl, hsk.1, by omega, ?_⟩
  -- on each path the conditions met so far evaluate the loop body
  by_cases hge : l1 ≥ endLine
  · exact .inl ⟨.inl hge, by simp only [blockLoop, hlt, hl1, hge, if_true]⟩
  obtain ⟨l, hl, hne⟩ := hstop (by omega)
  by_cases hout : l.sCount < s.blkIndent
  · exact .inl ⟨.inr ⟨l, hl, hne, hout⟩, by simp only [blockLoop, hlt, hl1, hge, hl, hout, if_true, if_false]⟩
  by_cases hlev : s.level ≥ mn
  · exact .inr (.inl ⟨hlev, by simp only [blockLoop, hlt, hl1, hge, hl, hout, hlev, if_true, if_false]⟩)
  · exact .inr (.inr ⟨Nat.not_le.1 hge, Int.not_le.1 hlev, l, hl, hne, Int.not_lt.1 hout⟩)

/-- `l'`: the line the chain left or, if that is an empty line of the range, the next -/
theorem blockLoop_dispatch (rules : List BRule) (mn : Int) (endLine n line : Nat) (he : Bool) (s : BState) (hlt : line < endLine)
    {l1 : Nat} {l : BLine} {m : Bool} {s2 : BState} (hl1 : skipEmptyLines s (s.lineMax + 1) line = l1) (h1 : l1 < endLine)
    (hl : s.lines[l1]? = some l) (hin : s.blkIndent ≤ l.sCount) (hlev : s.level < mn)
    (hc : runBlockChain rules { s with line := l1 } l1 endLine = .ok (m, s2)) :
    (s2.line ≤ l1 → blockLoop rules mn endLine (n + 1) line he s = .error (.noProgress "block")) ∧
    (l1 < s2.line → s2.line < s2.lines.length → ∃ l' he', s2.line ≤ l' ∧ l' ≤ max s2.line endLine ∧
      blockLoop rules mn endLine (n + 1) line he s = blockLoop rules mn endLine n l' he' { s2 with tight := !he, line := l' }) := by
  have hge : ¬ l1 ≥ endLine := Nat.not_le.2 h1
  have hout : ¬ l.sCount < s.blkIndent := Int.not_lt.2 hin
  have hlev : ¬ s.level ≥ mn := Int.not_le.2 hlev
  refine ⟨fun hnp => by simp only [blockLoop, hlt, hl1, hge, hl, hout, hlev, hc, hnp, if_true, if_false], fun hp hlen2 => ?_⟩
  have hnp : ¬ s2.line ≤ l1 := Nat.not_le.2 hp
  -- the two `isEmpty` reads are inside the line tables
  obtain ⟨e1, he1⟩ := isEmpty_pred { s2 with tight := !he } endLine (Nat.zero_lt_of_lt hp) (Nat.le_of_lt hlen2)
  by_cases h3 : s2.line < endLine
  · obtain ⟨e2, he2⟩ := isEmpty_ok { s2 with tight := !he } _ hlen2
    cases e2 with
    | false =>
      exact ⟨s2.line, he || e1, Nat.le_refl _, Nat.le_max_left _ _, by
        simp only [blockLoop, hlt, hl1, hge, hl, hout, hlev, hc, hnp, he1, h3, he2, if_true, if_false, Bool.false_eq_true]⟩
    | true =>
      exact ⟨s2.line + 1, true, Nat.le_succ _, by omega, by
        simp only [blockLoop, hlt, hl1, hge, hl, hout, hlev, hc, hnp, he1, h3, he2, if_true, if_false]⟩
  · exact ⟨s2.line, he || e1, Nat.le_refl _, Nat.le_max_left _ _, by
      simp only [blockLoop, hlt, hl1, hge, hl, hout, hlev, hc, hnp, he1, h3, if_true, if_false]⟩

/-- one iteration under the contracts: the two returns of `blockLoop_exits`, or the chain is run on `l1` with the frame kept and the
    loop either raises (no rule matched) or goes on from `l'` past the block (`blockLoop_dispatch`) with one unit of fuel less -/
theorem loop_step (P : BState → Nat → Prop) (hP : FrameClosed P) (rules : List BRule) (hok : ∀ r ∈ rules, RuleOK P r)
    (mn : Int) (endLine n line : Nat) (he : Bool) (s : BState)
    (hlen : s.lineMax + 1 ≤ s.lines.length) (hend : endLine ≤ s.lineMax) (hPs : P s endLine) (hlt : line < endLine) :
    ∃ l1, line ≤ l1 ∧ l1 ≤ s.lineMax ∧
      (((endLine ≤ l1 ∨ ∃ l, s.lines[l1]? = some l ∧ l.empty = false ∧ l.sCount < s.blkIndent) ∧
          blockLoop rules mn endLine (n + 1) line he s = .ok { s with line := l1 })
      ∨ (mn ≤ s.level ∧ blockLoop rules mn endLine (n + 1) line he s = .ok { s with line := endLine })
      ∨ (CallCtx P { s with line := l1 } l1 endLine ∧ ∃ m s2, runBlockChain rules { s with line := l1 } l1 endLine = .ok (m, s2) ∧
           s.FrameEq s2 ∧
           ((m = false ∧ blockLoop rules mn endLine (n + 1) line he s = .error (.noProgress "block"))
            ∨ (m = true ∧ l1 < s2.line ∧ ∃ l' he', s2.line ≤ l' ∧ l' ≤ s.lineMax ∧
                blockLoop rules mn endLine (n + 1) line he s
                  = blockLoop rules mn endLine n l' he' { s2 with tight := !he, line := l' })))) := by
  obtain ⟨l1, hl1, h1, h2, hx | hx | ⟨h3, hlev, l, hl, hne, hin⟩⟩ := blockLoop_exits rules mn endLine n line he s hlen hend hlt
  · exact ⟨l1, h1, h2, .inl hx⟩
  · exact ⟨l1, h1, h2, .inr (.inl hx)⟩
  have hctx : CallCtx P { s with line := l1 } l1 endLine :=
    ⟨hlen, h3, hend, ⟨l, hl, hne, hin⟩, rfl, hP s _ _ ⟨⟨rfl, rfl⟩, rfl, rfl, rfl⟩ hPs⟩
  obtain ⟨m, s2, hc, hfr, hp, hm⟩ := chain_ok P hP rules hok _ _ _ hctx
  have hfr : s.FrameEq s2 := hfr   -- `line` is not a frame field
  obtain ⟨hmiss, hhit⟩ := blockLoop_dispatch rules mn endLine n line he s hlt hl1 h3 hl hin hlev hc
  refine ⟨l1, h1, h2, .inr (.inr ⟨hctx, m, s2, hc, hfr, ?_⟩)⟩
  cases m with
  | false => exact .inl ⟨rfl, hmiss (Nat.le_of_eq (hm rfl))⟩
  | true =>
    obtain ⟨h4, h5⟩ : l1 < s2.line ∧ s2.line ≤ s.lineMax := hp rfl
    obtain ⟨l', he', h6, h7, heq⟩ := hhit h4 (by rw [hfr.lines]; omega)
    exact .inr ⟨rfl, h4, l', he', h6, by omega, heq⟩

/-- where the loop leaves `state.line`.  Strictly after `line` when that line is non-empty and not outdented: what a container that
    just opened on it guarantees. -/
def LinePost (endLine line : Nat) (s s' : BState) : Prop :=
  (line < endLine → line ≤ s'.line ∧ s'.line ≤ s.lineMax ∧
     ((∀ l, s.lines[line]? = some l → l.empty = false → s.blkIndent ≤ l.sCount) → line < s'.line))
  ∧ (¬ line < endLine → s' = s)

theorem LinePost.of_lt {endLine line : Nat} {s s' : BState} (hlt : line < endLine) (h1 : line ≤ s'.line) (h2 : s'.line ≤ s.lineMax)
    (h3 : line < s'.line ∨ ∃ l, s.lines[line]? = some l ∧ l.empty = false ∧ l.sCount < s.blkIndent) : LinePost endLine line s s' :=
  ⟨fun _ => ⟨h1, h2, fun hg => h3.elim id fun ⟨l, a, b, c⟩ => absurd (hg l a b) (Int.not_le.2 c)⟩, fun h => absurd hlt h⟩

theorem LinePost.leave {endLine line l1 : Nat} {s : BState} (hlt : line < endLine) (h1 : line ≤ l1) (h2 : l1 ≤ s.lineMax)
    (h : endLine ≤ l1 ∨ ∃ l, s.lines[l1]? = some l ∧ l.empty = false ∧ l.sCount < s.blkIndent) :
    LinePost endLine line s { s with line := l1 } :=
  .of_lt hlt h1 h2 <| (Nat.lt_or_eq_of_le h1).imp_right fun e => by
    subst e; exact h.elim (fun h => absurd hlt (Nat.not_lt.2 h)) id

theorem LinePost.cut {endLine line : Nat} {s : BState} (hlt : line < endLine) (hend : endLine ≤ s.lineMax) :
    LinePost endLine line s { s with line := endLine } :=
  .of_lt hlt (Nat.le_of_lt hlt) hend (.inl hlt)

/-- `M line s s'` holds of every returning run under the contracts if it holds along the loop's four paths: `done` (`line` past the
    range), `leave` and `cut` (the returns of `blockLoop_exits`), and `step`: the chain matched on `l1`, the first non-blank line from
    `line`, leaving `s2`; the loop went on at `l'` (`s2.line` or, if that line is blank, the next) with `tight := b`, and that run has `M` -/
theorem loop_induct (P : BState → Nat → Prop) (hP : FrameClosed P) (rules : List BRule) (hok : ∀ r ∈ rules, RuleOK P r)
    (mn : Int) (endLine : Nat) {M : Nat → BState → BState → Prop}
    (done : ∀ line s, ¬ line < endLine → M line s s)
    (leave : ∀ line l1 s, line < endLine → line ≤ l1 →
      (endLine ≤ l1 ∨ ∃ l, s.lines[l1]? = some l ∧ l.empty = false ∧ l.sCount < s.blkIndent) → M line s { s with line := l1 })
    (cut : ∀ line s, line < endLine → mn ≤ s.level → M line s { s with line := endLine })
    (step : ∀ line l1 l' s s2 s' b, line ≤ l1 → CallCtx P { s with line := l1 } l1 endLine →
      runBlockChain rules { s with line := l1 } l1 endLine = .ok (true, s2) → s.FrameEq s2 → l1 < s2.line → s2.line ≤ l' →
      l' ≤ s'.line → s'.line ≤ s.lineMax → M l' { s2 with tight := b, line := l' } s' → M line s s') :
    ∀ (fuel line : Nat) (he : Bool) (s s' : BState), s.lineMax + 1 ≤ s.lines.length → endLine ≤ s.lineMax → P s endLine →
      blockLoop rules mn endLine fuel line he s = .ok s' → M line s s' ∧ s.FrameEq s' ∧ LinePost endLine line s s' := by
  have hdone : ∀ fuel line he s s', ¬ line < endLine → blockLoop rules mn endLine fuel line he s = .ok s' →
      M line s s' ∧ s.FrameEq s' ∧ LinePost endLine line s s' := by
    intro fuel line he s s' hlt h
    rw [blockLoop_done _ _ _ _ _ _ _ hlt] at h; cases h
    exact ⟨done line s hlt, frameEq_refl s, fun h => absurd h hlt, fun _ => rfl⟩
  intro fuel
  induction fuel with
  | zero =>
    intro line he s s' _ _ _ h
    by_cases hlt : line < endLine
    · simp only [blockLoop, hlt, if_true] at h; cases h
    · exact hdone 0 line he s s' hlt h
  | succ n ih =>
    intro line he s s' hlen hend hPs h
    by_cases hlt : line < endLine
    · obtain ⟨l1, h1, h2, ⟨hx, heq⟩ | ⟨hlev, heq⟩ | ⟨hctx, m, s2, hc, hfr, ⟨rfl, heq⟩ | ⟨rfl, hp, l', he', h3, h4, heq⟩⟩⟩ :=
        loop_step P hP rules hok mn endLine n line he s hlen hend hPs hlt
      · rw [heq] at h; cases h
        exact ⟨leave line l1 s hlt h1 hx, ⟨⟨rfl, rfl⟩, rfl, rfl, rfl⟩, .leave hlt h1 h2 hx⟩
      · rw [heq] at h; cases h
        exact ⟨cut line s hlt hlev, ⟨⟨rfl, rfl⟩, rfl, rfl, rfl⟩, .cut hlt hend⟩
      · rw [heq] at h; cases h
      · rw [heq] at h
        have hfr' : s.FrameEq { s2 with tight := !he, line := l' } := hfr
        obtain ⟨hM, hf', hpost⟩ := ih l' he' _ s' (by rw [hfr.lines, hfr.lineMax]; exact hlen) (by rw [hfr.lineMax]; exact hend)
          (hP _ _ _ hfr' hPs) h
        obtain ⟨h5, h6⟩ : l' ≤ s'.line ∧ s'.line ≤ s.lineMax := by
          by_cases hlt2 : l' < endLine
          · exact ⟨(hpost.1 hlt2).1, by rw [← hfr.lineMax]; exact (hpost.1 hlt2).2.1⟩
          · rw [hpost.2 hlt2]; exact ⟨Nat.le_refl _, h4⟩
        exact ⟨step line l1 l' s s2 s' _ h1 hctx hc hfr hp h3 h5 h6 hM, frameEq_trans hfr' hf',
          .of_lt hlt (by omega) h6 (.inl (by omega))⟩
    · exact hdone _ line he s s' hlt h

theorem loop_post (P : BState → Nat → Prop) (hP : FrameClosed P) (rules : List BRule) (hok : ∀ r ∈ rules, RuleOK P r)
    (mn : Int) (endLine fuel line : Nat) (he : Bool) (s s' : BState) (hlen : s.lineMax + 1 ≤ s.lines.length) (hend : endLine ≤ s.lineMax)
    (hPs : P s endLine) (h : blockLoop rules mn endLine fuel line he s = .ok s') : s.FrameEq s' ∧ LinePost endLine line s s' :=
  (loop_induct P hP rules hok mn endLine (M := fun _ _ _ => True) (fun _ _ _ => trivial) (fun _ _ _ _ _ _ => trivial)
    (fun _ _ _ _ => trivial) (fun _ _ _ _ _ _ _ _ _ _ _ _ _ _ _ _ => trivial) fuel line he s s' hlen hend hPs h).2

theorem block_total_lines (P : BState → Nat → Prop) (hP : FrameClosed P) (rules : List BRule) (hok : ∀ r ∈ rules, RuleOK P r)
    (hlast : ∃ r ∈ rules, AlwaysMatches P r) (maxNesting : Int) (endLine : Nat) :
    ∀ (fuel line : Nat) (hasEmpty : Bool) (s : BState), s.lineMax + 1 ≤ s.lines.length → endLine ≤ s.lineMax →
      P s endLine → endLine - line < fuel →
      ∃ s', blockLoop rules maxNesting endLine fuel line hasEmpty s = .ok s' ∧ s.FrameEq s' ∧ LinePost endLine line s s' := by
  -- the loop returns: every dispatch matches and so moves on, and the fuel covers the range
  have total : ∀ (fuel line : Nat) (he : Bool) (s : BState), s.lineMax + 1 ≤ s.lines.length → endLine ≤ s.lineMax →
      P s endLine → endLine - line < fuel → ∃ s', blockLoop rules maxNesting endLine fuel line he s = .ok s' := by
    intro fuel
    induction fuel with
    | zero => intro line _ s _ _ _ hf; omega
    | succ n ih =>
      intro line he s hlen hend hPs hf
      by_cases hlt : line < endLine
      · obtain ⟨l1, h1, h2, ⟨hx, heq⟩ | ⟨hlev, heq⟩ | ⟨hctx, m, s2, hc, hfr, ⟨rfl, heq⟩ | ⟨rfl, hp, l', he', h3, h4, heq⟩⟩⟩ :=
          loop_step P hP rules hok maxNesting endLine n line he s hlen hend hPs hlt
        · exact ⟨_, heq⟩
        · exact ⟨_, heq⟩
        · obtain ⟨s2', hc'⟩ := chain_matches P hP rules hok hlast _ _ _ hctx
          cases hc.symm.trans hc'
        · rw [heq]
          exact ih l' he' _ (by rw [hfr.lines, hfr.lineMax]; exact hlen) (by rw [hfr.lineMax]; exact hend) (hP _ _ _ hfr hPs) (by omega)
      · exact ⟨s, blockLoop_done _ _ _ _ _ _ _ hlt⟩
  intro fuel line he s hlen hend hPs hf
  obtain ⟨s', h⟩ := total fuel line he s hlen hend hPs hf
  exact ⟨s', h, loop_post P hP rules hok maxNesting endLine fuel line he s s' hlen hend hPs h⟩

/-- **C01.block_total** — for every chain of rules that satisfy their contracts and contain a
fallback rule that always matches (the `paragraph` rule: "Supported" configurations keep it
enabled), on every line table with its sentinel entry the block loop returns normally: no exception,
no endless loop; it leaves line tables, `lineMax`, `blkIndent` and `level` as it found them. -/
theorem block_total (P : BState → Nat → Prop) (hP : FrameClosed P) (rules : List BRule) (hok : ∀ r ∈ rules, RuleOK P r)
    (hlast : ∃ r ∈ rules, AlwaysMatches P r) (maxNesting : Int) (endLine : Nat) :
    ∀ (fuel line : Nat) (hasEmpty : Bool) (s : BState), s.lineMax + 1 ≤ s.lines.length → endLine ≤ s.lineMax →
      P s endLine → endLine - line < fuel →
      ∃ s', blockLoop rules maxNesting endLine fuel line hasEmpty s = .ok s' ∧ s.FrameEq s' := by
  intro fuel line hasEmpty s hlen hend hPs hf
  obtain ⟨s', h, hfr, _⟩ := block_total_lines P hP rules hok hlast maxNesting endLine fuel line hasEmpty s hlen hend hPs hf
  exact ⟨s', h, hfr⟩

theorem block_tokenize_total (P : BState → Nat → Prop) (hP : FrameClosed P) (rules : List BRule)
    (hok : ∀ r ∈ rules, RuleOK P r) (hlast : ∃ r ∈ rules, AlwaysMatches P r)
    (maxNesting : Int) (s : BState) (startLine endLine : Nat) (hlen : s.lineMax + 1 ≤ s.lines.length)
    (hend : endLine ≤ s.lineMax) (hPs : P s endLine) :
    ∃ s', blockTokenize rules maxNesting s startLine endLine = .ok s' ∧ s.FrameEq s' :=
  block_total P hP rules hok hlast maxNesting endLine _ startLine false s hlen hend hPs (by omega)

/-- the inline contract with no call context; no modelled rule meets it (they index `src[pos]`): see `IRuleOK2` in `Props/C01e.lean` -/
structure IRuleOK (r : IRule) : Prop where
  total : ∀ s silent, ∃ m s', r s silent = .ok (m, s')
  progress : ∀ s s', r s false = .ok (true, s') → s.pos < s'.pos
  miss : ∀ s s', r s false = .ok (false, s') → s'.pos = s.pos
  /-- open/close pushes come in pairs -/
  frame : ∀ s m s', r s false = .ok (m, s') → s'.src = s.src ∧ s'.level = s.level

/-- **C01.inline_total** — for every chain of inline rules that satisfy their contracts, every
`maxNesting` and every range inside the source, the inline loop returns normally: it never raises
and never spins (in particular the stale `ok` flag of the Python loop — it is not reset per
iteration — is harmless *because* rules preserve the nesting level). -/
theorem inline_total (rules : List IRule) (hok : ∀ r ∈ rules, IRuleOK r) (maxNesting : Int) (end_ : Nat) :
    ∀ (fuel : Nat) (ok : Bool) (s : IState), end_ ≤ s.src.length → end_ - s.pos < fuel →
      (s.level ≥ maxNesting → ok = false) →
      ∃ s', tokenizeLoop rules maxNesting end_ fuel ok s = .ok s' := by
  intro fuel ok s hend hf hstale
  obtain ⟨s', h, _⟩ := tokenizeLoop_total rules maxNesting end_ (fun s => end_ ≤ s.src.length) (fun _ h => h) (fun _ _ h => h)
    (fun s hJ _ => by
      obtain ⟨m, s', hc, ⟨hsrc, hlvl⟩, hp, hm⟩ := runChain_total (fun _ => True) (fun a b => b.src = a.src ∧ b.level = a.level)
        (fun _ => ⟨rfl, rfl⟩) (fun _ _ _ h1 h2 => ⟨h2.1.trans h1.1, h2.2.trans h1.2⟩) rules
        (fun r hr s _ => by
          obtain ⟨m, s', h⟩ := (hok r hr).total s false
          exact ⟨m, s', h, (hok r hr).frame _ _ _ h, fun e => (hok r hr).progress _ _ (e ▸ h), fun e => ⟨(hok r hr).miss _ _ (e ▸ h), trivial⟩⟩)
        s trivial
      exact ⟨m, s', hc, by rw [hsrc]; exact hJ, hlvl, hp, hm⟩) fuel ok s hend hf hstale
  exact ⟨s', h⟩

/-- the other fields of the contract need the call context: `iok_text` in `Props/C01e.lean` -/
theorem text_ok : (∀ s silent, ∃ m s', ruleText s silent = .ok (m, s')) := by
  intro s silent
  unfold ruleText
  split <;> exact ⟨_, _, rfl⟩

/-- **T1 obligation** — in the current source `paragraph` is the last block rule, `text` the first
inline rule, and both are in every preset's component lists ("Supported" configurations keep them) -/
theorem fallback_rules :
    (Gen.blockRules.map (·.1)).getLast? = some "paragraph" ∧ Gen.inlineRules.head? = some "text"
    ∧ ∀ p ∈ Gen.presets, (p.blockR.map (·.contains "paragraph")).getD true = true
        ∧ (p.inlineR.map (·.contains "text")).getD true = true := by decide +kernel

end MdIt.C01
