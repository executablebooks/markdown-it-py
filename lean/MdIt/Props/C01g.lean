import MdIt.Props.C01f
import MdIt.InlineLeaf
/-!
# C01 (continued) — the inline sub-parser with `autolink`, `html_inline`, `entity` is total

The three rules run regular expressions translated from the live pattern objects (`MdIt/Generated/Regex.lean`, T1); what the
proofs need of them is that a match consumes at least one character (`Rx.matchLen_pos`, from `Rx.nullable … = false`, decided on the
generated terms: a change of a pattern that lets it match the empty string breaks this file), and that `DIGITAL_RE` matches only what
`int()` accepts.  The contracts hold for every value of the external functions (`IExt`).
-/
namespace MdIt.C01

/-- T1 obligations: none of the three patterns can match the empty string -/
theorem digitalRe_consumes : Gen.digitalRe.nullable = false := by decide +kernel
theorem namedRe_consumes : Gen.namedRe.nullable = false := by decide +kernel
theorem htmlTagRe_consumes : Gen.htmlTagRe.nullable = false := by decide +kernel

theorem pushA_frame (s : IState) (a b : String) (n : Int) (at_ : List (String × AttrVal)) (c d e : String) :
    (s.pushA a b n at_ c d e).src = s.src ∧ (s.pushA a b n at_ c d e).posMax = s.posMax ∧ (s.pushA a b n at_ c d e).pos = s.pos
      ∧ (s.pushA a b n at_ c d e).level = (if n < 0 then s.level - 1 else if n > 0 then s.level + 1 else s.level) := by
  unfold IState.pushA
  exact push_frame s a b n c d e

theorem parseIntBase_ok (base : Nat) : ∀ (l : List Char) (acc : Nat),
    (∀ c ∈ l, ∃ d, digitVal c = some d ∧ d < base) → ∃ n, parseIntBase base l acc = .ok n := by
  intro l
  induction l with
  | nil => intro acc _; exact ⟨acc, rfl⟩
  | cons c rest ih =>
    intro acc h
    obtain ⟨d, hd, hlt⟩ := h c (by simp)
    simp only [parseIntBase, hd, hlt, if_true]
    exact ih _ (fun c' hc' => h c' (by simp [hc']))

/-! ### `DIGITAL_RE` only matches what `int()` accepts

The shape `^ & # ( [xX] H{..} | D{..} ) ;` is fixed here (`Gen.digitalRe = digitalForm …` by `rfl`); the character sets and repeat
counts are whatever the live pattern has, checked to lie inside the hex digits / decimal digits. -/

def digitalForm (amp hash semi xs hs ds : List (Nat × Nat)) (h1 d1 : Nat) (h2 d2 : Option Nat) : Rx :=
  .seq .bol (.seq (.set amp) (.seq (.set hash) (.seq (.alt (.seq (.set xs) (.rep true h1 h2 (.set hs))) (.rep true d1 d2 (.set ds))) (.set semi))))

def hexRanges : List (Nat × Nat) := [(48, 57), (65, 70), (97, 102)]
def decRanges : List (Nat × Nat) := [(48, 57)]
def xRanges : List (Nat × Nat) := [(88, 88), (120, 120)]

theorem digitVal_hex {c : Char} (h : inRanges hexRanges c.toNat = true) : ∃ d, digitVal c = some d ∧ d < 16 := by
  simp only [inRanges, hexRanges, List.any_cons, List.any_nil, Bool.or_false, Bool.or_eq_true, Bool.and_eq_true, decide_eq_true_eq] at h
  unfold digitVal
  simp only
  rcases h with h | h | h
  · exact ⟨_, by rw [if_pos h], by omega⟩
  · refine ⟨c.toNat - 55, ?_, by omega⟩
    rw [if_neg (by omega), if_neg (by omega), if_pos h]
  · refine ⟨c.toNat - 87, ?_, by omega⟩
    rw [if_neg (by omega), if_pos h]

theorem digitVal_dec {c : Char} (h : inRanges decRanges c.toNat = true) : ∃ d, digitVal c = some d ∧ d < 10 := by
  simp only [inRanges, decRanges, List.any_cons, List.any_nil, Bool.or_false, Bool.and_eq_true, decide_eq_true_eq] at h
  unfold digitVal
  simp only
  exact ⟨_, by rw [if_pos h], by omega⟩

theorem digital_form_code (amp hash semi xs hs ds : List (Nat × Nat)) (h1 d1 : Nat) (h2 d2 : Option Nat)
    (hx : rangesSub xs xRanges = true) (hh : rangesSub hs hexRanges = true) (hd : rangesSub ds decRanges = true)
    (hd1 : 0 < d1) (rest : List Char) (n : Nat)
    (h : (digitalForm amp hash semi xs hs ds h1 d1 h2 d2).matchLen rest = some n) :
    ∃ code, entityCode ((rest.take (n - 1)).drop 2) = .ok code := by
  have hm : n ∈ (digitalForm amp hash semi xs hs ds h1 d1 h2 d2).ends rest 0 := List.mem_of_mem_head? h
  unfold digitalForm at hm
  rw [Rx.ends_seq] at hm
  obtain ⟨m0, hm0, hm⟩ := hm
  obtain ⟨_, rfl⟩ := Rx.ends_bol.mp hm0
  rw [Rx.ends_seq] at hm
  obtain ⟨m1, hm1, hm⟩ := hm
  obtain ⟨_, _, _, rfl⟩ := Rx.ends_set.mp hm1
  rw [Rx.ends_seq] at hm
  obtain ⟨m2, hm2, hm⟩ := hm
  obtain ⟨_, _, _, rfl⟩ := Rx.ends_set.mp hm2
  rw [Rx.ends_seq] at hm
  obtain ⟨m3, hm3, hm⟩ := hm
  obtain ⟨_, _, _, rfl⟩ := Rx.ends_set.mp hm
  simp only [Nat.add_sub_cancel]
  -- `match.group(1)` starts with the character at index 2
  have hdrop : ∀ c, rest[2]? = some c → 2 < m3 → (rest.take m3).drop 2 = c :: (rest.take m3).drop 3 := by
    intro c hc hm
    have h2 : (rest.take m3)[2]? = some c := by rw [List.getElem?_take]; simp [hm, hc]
    have hl := getElem?_lt h2
    rw [List.drop_eq_getElem_cons hl]
    congr 1
    rw [List.getElem?_eq_getElem hl] at h2
    exact Option.some.inj h2
  have digits : ∀ (rs al : List (Nat × Nat)) (base from_ : Nat), rangesSub rs al = true →
      (∀ {c : Char}, inRanges al c.toNat = true → ∃ d, digitVal c = some d ∧ d < base) →
      (∀ i, from_ ≤ i → i < m3 → ∃ c, rest[i]? = some c ∧ inRanges rs c.toNat = true) →
      ∀ c' ∈ (rest.take m3).drop from_, ∃ d, digitVal c' = some d ∧ d < base := by
    intro rs al base from_ hsub hdig hall c' hc'
    obtain ⟨i, hi1, hi2, hi3⟩ := mem_slice hc'
    obtain ⟨c'', hc'', hr⟩ := hall i hi1 hi2
    rw [hi3] at hc''
    cases hc''
    exact hdig (inRanges_sub hsub hr)
  rw [Rx.ends_alt] at hm3
  rcases hm3 with hm3 | hm3
  · -- `x` / `X`, then hex digits
    rw [Rx.ends_seq] at hm3
    obtain ⟨m4, hm4, hm3⟩ := hm3
    obtain ⟨c, hc, hcx, rfl⟩ := Rx.ends_set.mp hm4
    obtain ⟨hge, hall⟩ := Rx.ends_rep_set hm3
    rw [hdrop c hc (by omega)]
    have hcx' := inRanges_sub hx hcx
    have hxc : (c == 'x' || c == 'X') = true := by
      simp only [inRanges, xRanges, List.any_cons, List.any_nil, Bool.or_false, Bool.or_eq_true, Bool.and_eq_true, decide_eq_true_eq] at hcx'
      rcases hcx' with h' | h'
      · have : c = 'X' := Char.ext (by apply UInt32.toNat_inj.mp; show c.toNat = 88; omega)
        simp [this]
      · have : c = 'x' := Char.ext (by apply UInt32.toNat_inj.mp; show c.toNat = 120; omega)
        simp [this]
    simp only [entityCode, hxc, if_true]
    exact parseIntBase_ok 16 _ 0 (digits hs hexRanges 16 3 hh digitVal_hex hall)
  · -- decimal digits, at least one
    have hgt : 2 < m3 := by
      simp only [Rx.ends] at hm3
      exact repEnds_gt _ (fun q e h => by obtain ⟨_, _, _, rfl⟩ := Rx.ends_set.mp h; omega) true d1 d2 _ _ _ _ hd1 hm3
    obtain ⟨hge, hall⟩ := Rx.ends_rep_set hm3
    obtain ⟨c, hc, hr0⟩ := hall 2 (Nat.le_refl _) hgt
    have hall' := digits ds decRanges 10 2 hd digitVal_dec hall
    have hnx : (c == 'x' || c == 'X') = false := by
      have := inRanges_sub hd hr0
      simp only [inRanges, decRanges, List.any_cons, List.any_nil, Bool.or_false, Bool.and_eq_true, decide_eq_true_eq] at this
      have h1 : c ≠ 'x' := by intro h'; subst h'; simp at this
      have h2 : c ≠ 'X' := by intro h'; subst h'; simp at this
      simp [h1, h2]
    rw [hdrop c hc hgt] at hall' ⊢
    simp only [entityCode, hnx]
    exact parseIntBase_ok 10 _ 0 hall'

/-- T1 obligation: the live `DIGITAL_RE` has that shape, with sets inside the digits `int()` accepts -/
theorem digitalRe_code (rest : List Char) (n : Nat) (h : Gen.digitalRe.matchLen rest = some n) :
    ∃ code, entityCode ((rest.take (n - 1)).drop 2) = .ok code := by
  have hform : Gen.digitalRe = digitalForm [(38, 38)] [(35, 35)] [(59, 59)] [(88, 88), (120, 120)] [(48, 57), (65, 70), (97, 102)] [(48, 57)]
      1 1 (some 6) (some 7) := rfl
  rw [hform] at h
  exact digital_form_code _ _ _ _ _ _ _ _ _ _ (by decide) (by decide) (by decide) (by decide) rest n h

theorem leaf_entity (ext : IExt) : Leaf (fun _ op => ∃ c m, op = .plain "text_special" "" c m "entity") (ruleEntity ext) := by
  intro s silent
  fun_cases ruleEntity ext s silent
  case case1 h => exact .err _ fun hc => by rw [List.getElem?_eq_getElem (ictx_lt hc)] at h; cases h  -- no character at `pos`
  -- not `&`; `&` last before `posMax`; `digitalRe` / `namedRe` does not match; a name the entity table does not hold
  case case2 | case3 | case5 | case9 | case10 => exact .miss
  case case4 h => exact .err _ fun hc => by have := List.getElem?_eq_none_iff.1 h; have := hc.2; omega  -- no character at `pos + 1`
  case case6 n hm _ =>  -- `&#…;`, silent
    have := Rx.matchLen_pos _ digitalRe_consumes _ _ hm
    exact .quiet s (s.pos + n) (.refl s) fun _ => by omega
  case case7 n hm _ e he => obtain ⟨code, hcode⟩ := digitalRe_code _ _ hm; rw [hcode] at he; cases he  -- `&#…;`: `int()` raises
  case case8 n hm hs code _ _ _ =>  -- `&#…;`, not silent
    have := Rx.matchLen_pos _ digitalRe_consumes _ _ hm
    obtain rfl : silent = false := by simpa using hs
    exact .push s (.plain "text_special" "" _ _ "entity") (s.pos + n) _ (.refl s) (fun _ => by omega) ⟨_, _, rfl⟩ rfl
  case case11 n hm v _ _ =>  -- `&name;` with `name` in the table
    have := Rx.matchLen_pos _ namedRe_consumes _ _ hm
    cases silent with
    | true => exact .quiet s (s.pos + n) (.refl s) fun _ => by omega
    | false => exact .push s (.plain "text_special" "" _ _ "entity") (s.pos + n) _ (.refl s) (fun _ => by omega) ⟨_, _, rfl⟩ rfl

theorem autolinkScan_ok (src : List Char) (max : Nat) (hmax : max ≤ src.length) : ∀ (fuel pos : Nat),
    ∃ r, autolinkScan src max fuel pos = .ok r := by
  intro fuel pos
  fun_induction autolinkScan src max fuel pos with
  | case1 | case2 | case4 | case5 => exact ⟨_, rfl⟩
  | case3 _ _ _ _ h => have := List.getElem?_eq_none_iff.1 h; omega
  | case6 _ _ _ _ _ _ _ _ ih => exact ih

theorem leaf_autolink (ext : IExt) : Leaf (fun _ op => ∃ u url, validateLink (ext.normLink u) = true ∧ op ∈ autolinkOps ext (ext.normLink u) url)
    (ruleAutolink ext) := by
  intro s silent
  have key : ∀ (u url : List Char) (p : Nat), (!validateLink (ext.normLink u)) ≠ true →
      Call (fun _ op => ∃ u url, validateLink (ext.normLink u) = true ∧ op ∈ autolinkOps ext (ext.normLink u) url) s silent
        (.ok (true, { (if silent = true then s else autolinkPush ext s (ext.normLink u) url) with pos := s.pos + p + 2 })) := by
    intro u url p hv
    cases silent with
    | true => exact .quiet s (s.pos + p + 2) (.refl s) fun _ => by omega
    | false =>
      rw [if_neg Bool.false_ne_true, autolinkPush_eq]
      exact .hit s _ (s.pos + p + 2) _ (.refl s) (fun _ => by omega) (fun h => nomatch h) (fun op h => ⟨u, url, by simpa using hv, h⟩) rfl
  fun_cases ruleAutolink ext s silent
  case case1 h => exact .err _ fun hc => by rw [List.getElem?_eq_getElem (ictx_lt hc)] at h; cases h
  case case3 e he =>
    exact .err _ fun hc => by obtain ⟨r, hr⟩ := autolinkScan_ok s.src s.posMax hc.2 (s.posMax - s.pos + 1) s.pos; rw [hr] at he; cases he
  case case2 | case4 | case5 | case7 | case9 => exact .miss
  case case6 hv _ | case8 hv _ => exact key _ _ _ hv

theorem leaf_htmlInline (ext : IExt) : Leaf (fun _ op => ext.html = true ∧ ∃ c, op = .plain "html_inline" "" c "" "") (ruleHtmlInline ext) := by
  intro s silent
  fun_cases ruleHtmlInline ext s silent
  case case2 h => exact .err _ fun hc => by rw [List.getElem?_eq_getElem (ictx_lt hc)] at h; cases h  -- no character at `pos`
  case case4 h1 h =>  -- no character at `pos + 1`
    exact .err _ fun hc => by
      simp only [Bool.or_eq_true, decide_eq_true_eq, not_or, Nat.not_le] at h1
      have := List.getElem?_eq_none_iff.1 h; have := hc.2; omega
  -- `html` off; not `<`, or less than two characters behind it; then neither `!`, `?`, `/` nor a letter; `htmlTagRe` does not match
  case case1 | case3 | case5 | case6 => exact .miss
  case case7 h0 _ _ _ _ _ _ _ _ n hm _ _ =>  -- a tag of length `n`
    have := Rx.matchLen_pos _ htmlTagRe_consumes _ _ hm
    cases silent with
    | true => exact .quiet s (s.pos + n) (.refl s) fun _ => by omega
    | false => exact .push s (.plain "html_inline" "" _ "" "") (s.pos + n) _ (.refl s) (fun _ => by omega) ⟨by simpa using h0, _, rfl⟩ rfl

theorem iok_entity (ext : IExt) : IRuleOK2 (ruleEntity ext) := (leaf_entity ext).iok
theorem iok_autolink (ext : IExt) : IRuleOK2 (ruleAutolink ext) := (leaf_autolink ext).iok
theorem iok_htmlInline (ext : IExt) : IRuleOK2 (ruleHtmlInline ext) := (leaf_htmlInline ext).iok

/-- the inline chain `text, newline?, escape?, backticks?, strikethrough?, emphasis?, autolink?, html_inline?, entity?`
    (registration order of `parser_inline._rules`, without `linkify`, `link`, `image`) -/
def xminiChain (cls : QCls) (ext : IExt) (c : IMiniCfg) (strike emphasis autolink htmlInline entity : Bool) : List IRule :=
  sminiChain cls c strike emphasis ++ (if autolink then [ruleAutolink ext] else [])
    ++ (if htmlInline then [ruleHtmlInline ext] else []) ++ (if entity then [ruleEntity ext] else [])

theorem xminiChain_forall {P : IRule → Prop} {cls : QCls} {ext : IExt} {c : IMiniCfg} {strike emphasis autolink htmlInline entity : Bool}
    (hs : ∀ r ∈ sminiChain cls c strike emphasis, P r) (ha : autolink = true → P (ruleAutolink ext))
    (hh : htmlInline = true → P (ruleHtmlInline ext)) (hy : entity = true → P (ruleEntity ext)) :
    ∀ r ∈ xminiChain cls ext c strike emphasis autolink htmlInline entity, P r := by
  simp only [xminiChain, List.forall_mem_append, forall_mem_opt]
  exact ⟨⟨⟨hs, ha⟩, hh⟩, hy⟩

theorem xminiChain_ok (cls : QCls) (ext : IExt) (c : IMiniCfg) (strike emphasis autolink htmlInline entity : Bool) :
    ∀ r ∈ xminiChain cls ext c strike emphasis autolink htmlInline entity, IRuleOK2 r :=
  xminiChain_forall (sminiChain_ok cls c strike emphasis) (fun _ => iok_autolink ext) (fun _ => iok_htmlInline ext) (fun _ => iok_entity ext)

/-- **C01.xmini_total** — the inline sub-parser with nine of the twelve inline rules: for every source, rule subset, `maxNesting`,
character classification and every value of the external functions (entity table, `mdurl` reformatting, `normalizeLinkText`, `html`
option) the parse returns a token list -/
theorem xmini_total (cls : QCls) (ext : IExt) (c : IMiniCfg) (strike emphasis autolink htmlInline entity fragJoin : Bool)
    (maxNesting : Int) (src : List Char) :
    ∃ ts, inlineParse (xminiChain cls ext c strike emphasis autolink htmlInline entity) (sminiPost strike emphasis) fragJoin
      maxNesting src = .ok ts :=
  inlineParse_total (xminiChain_ok cls ext c strike emphasis autolink htmlInline entity) _ _ _ _

end MdIt.C01
