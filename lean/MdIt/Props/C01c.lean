import MdIt.Props.C01b
import MdIt.Proofs.BlockQuote
/-!
# C01 (continued) — the block quote rule satisfies its contract; the sub-parser with block quotes is total

The container rule re-enters the engine; its contract holds at depth budget `d + 1` given what the nested runs do at budget `d`
(`InnerOK`), in the call context `Lv d`: the budget suffices for the levels that can still be opened below `maxNesting`.  `tower_ok`
carries it through every budget of a family of chains, from budget 0, where the loop does nothing at `level ≥ maxNesting`
(`block_cut`).  `quote_shape` puts together: the end-of-quote search returns the state it was given with line entries rewritten and
perhaps `lineMax` lowered (`quoteScan_run`); the restore loop puts exactly the saved entries back (`restore_lines`); the nested run
leaves the frame and ends on a later line (`InnerOK.run`).
-/
namespace MdIt.C01

theorem block_cut (rules : List BRule) (maxNesting : Int) (endLine : Nat) (fuel line : Nat) (hasEmpty : Bool) (s : BState)
    (hlen : s.lineMax + 1 ≤ s.lines.length) (hend : endLine ≤ s.lineMax) (hcut : maxNesting ≤ s.level) (hf : 0 < fuel) :
    ∃ s', blockLoop rules maxNesting endLine fuel line hasEmpty s = .ok s' ∧ s.FrameEq s' ∧ LinePost endLine line s s' := by
  obtain ⟨n, rfl⟩ : ∃ n, fuel = n + 1 := ⟨fuel - 1, by omega⟩
  by_cases hlt : line < endLine
  · obtain ⟨l1, _, h1, h2, ⟨hx, heq⟩ | ⟨_, heq⟩ | ⟨_, hlev, _⟩⟩ := blockLoop_exits rules maxNesting endLine n line hasEmpty s hlen hend hlt
    · exact ⟨_, heq, ⟨⟨rfl, rfl⟩, rfl, rfl, rfl⟩, .leave hlt h1 h2 hx⟩
    · exact ⟨_, heq, ⟨⟨rfl, rfl⟩, rfl, rfl, rfl⟩, .cut hlt hend⟩
    · omega
  · exact ⟨s, blockLoop_done _ _ _ _ _ _ _ hlt, frameEq_refl s, fun h => absurd h hlt, fun _ => rfl⟩

theorem qLoop_ge (bs : Nat) (adj : Int) : ∀ (text : List Char) (offset : Int) (n : Nat),
    offset ≤ (qLoop bs adj offset text n).1 := by
  intro text
  induction text with
  | nil => intro offset n; simp [qLoop]
  | cons c rest ih =>
    intro offset n
    simp only [qLoop]
    split
    · have := ih (offset + (4 - (offset + bs + adj) % 4)) (n + 1)
      have hm : (offset + (bs : Int) + adj) % 4 < 4 := Int.emod_lt_of_pos _ (by decide)
      omega
    · split
      · have := ih (offset + 1) (n + 1); omega
      · exact Int.le_refl _

theorem quoteStrip_sCount (l : BLine) : 0 ≤ (quoteStrip l).1.sCount := by
  simp only [quoteStrip]
  have := qLoop_ge l.bs (quoteHead l.bs l.sCount (List.drop 1 l.body)).2.2.1
    (List.drop (quoteHead l.bs l.sCount (List.drop 1 l.body)).1 (List.drop 1 l.body))
    (quoteHead l.bs l.sCount (List.drop 1 l.body)).2.1 0
  omega

@[simp] theorem setLine_lineMax (s : BState) (i : Nat) (l : BLine) : (s.setLine i l).lineMax = s.lineMax := rfl
@[simp] theorem setLine_blkIndent (s : BState) (i : Nat) (l : BLine) : (s.setLine i l).blkIndent = s.blkIndent := rfl
@[simp] theorem setLine_level (s : BState) (i : Nat) (l : BLine) : (s.setLine i l).level = s.level := rfl
@[simp] theorem setLine_tokens (s : BState) (i : Nat) (l : BLine) : (s.setLine i l).tokens = s.tokens := rfl
@[simp] theorem setLine_line (s : BState) (i : Nat) (l : BLine) : (s.setLine i l).line = s.line := rfl
@[simp] theorem setLine_parentType (s : BState) (i : Nat) (l : BLine) : (s.setLine i l).parentType = s.parentType := rfl
@[simp] theorem setLine_lines (s : BState) (i : Nat) (l : BLine) : (s.setLine i l).lines = s.lines.set i l := rfl

theorem restoreLines_fields (saved : List BLine) : ∀ (s : BState) (start : Nat),
    (restoreLines s start saved).lineMax = s.lineMax ∧ (restoreLines s start saved).blkIndent = s.blkIndent
    ∧ (restoreLines s start saved).level = s.level ∧ (restoreLines s start saved).tokens = s.tokens
    ∧ (restoreLines s start saved).line = s.line ∧ (restoreLines s start saved).parentType = s.parentType := by
  intro s start
  rw [restoreLines_eq]
  exact ⟨rfl, rfl, rfl, rfl, rfl, rfl⟩

theorem restoreLines_get (saved : List BLine) : ∀ (s : BState) (start i : Nat),
    (restoreLines s start saved).lines[i]? =
      if start ≤ i ∧ i < start + saved.length ∧ i < s.lines.length then saved[i - start]? else s.lines[i]? := by
  induction saved with
  | nil => intro s start i; simp [restoreLines]; intros; omega
  | cons l rest ih =>
    intro s start i
    simp only [restoreLines]
    rw [ih]
    simp only [setLine_lines, List.length_set, List.length_cons]
    by_cases h1 : start + 1 ≤ i ∧ i < start + 1 + rest.length ∧ i < s.lines.length
    · have h2 : start ≤ i ∧ i < start + (rest.length + 1) ∧ i < s.lines.length := by omega
      simp only [h1, h2, and_self, if_true]
      have : i - start = (i - (start + 1)) + 1 := by omega
      rw [this, List.getElem?_cons_succ]
    · simp only [h1, if_false]
      by_cases h3 : i = start
      · subst h3
        by_cases h4 : i < s.lines.length
        · have h2 : i ≤ i ∧ i < i + (rest.length + 1) ∧ i < s.lines.length := by omega
          simp only [h2, and_self, if_true, Nat.sub_self, List.getElem?_cons_zero]
          rw [List.getElem?_set_self h4]
        · have h2 : ¬ (i ≤ i ∧ i < i + (rest.length + 1) ∧ i < s.lines.length) := by omega
          simp only [h2, if_false]
          rw [List.getElem?_eq_none_iff.mpr (by simp; omega), List.getElem?_eq_none_iff.mpr (by omega)]
      · have h2 : ¬ (start ≤ i ∧ i < start + (rest.length + 1) ∧ i < s.lines.length) := by omega
        simp only [h2, if_false]
        rw [List.getElem?_set_ne (by omega)]

/-- what the scan keeps true: it only rewrote the lines it saved, and saved their original entries -/
structure ScanInv (orig : List BLine) (start : Nat) (cur : BState) (saved : List BLine) : Prop where
  len : cur.lines.length = orig.length
  saved_orig : ∀ j, j < saved.length → orig[start + j]? = saved[j]?
  rest : ∀ i, (i < start ∨ start + saved.length ≤ i) → cur.lines[i]? = orig[i]?

theorem restore_lines (orig : List BLine) (start : Nat) (cur : BState) (saved : List BLine) (h : ScanInv orig start cur saved)
    (cur' : BState) (hl : cur'.lines = cur.lines) : (restoreLines cur' start saved).lines = orig := by
  apply List.ext_getElem?
  intro i
  rw [restoreLines_get, hl]
  split
  · rename_i hc
    have := h.saved_orig (i - start) (by omega)
    rw [← this]; congr 1; omega
  · rename_i hc
    by_cases hi : i < cur.lines.length
    · exact h.rest i (by omega)
    · rw [List.getElem?_eq_none_iff.mpr (by omega), List.getElem?_eq_none_iff.mpr (by rw [← h.len]; omega)]

theorem ScanInv.refl (s : BState) (start : Nat) {s' : BState} (hc : s'.lines = s.lines) : ScanInv s.lines start s' [] :=
  ⟨by rw [hc], fun _ h => absurd h (Nat.not_lt_zero _), fun _ _ => by rw [hc]⟩

theorem ScanInv.set {s s' : BState} {i : Nat} {l : BLine} (l' : BLine) (hl : s.lines[i]? = some l) (hc : s'.lines = s.lines.set i l') :
    ScanInv s.lines i s' [l] := by
  refine ⟨by rw [hc, List.length_set], fun j hj => ?_, fun k hk => ?_⟩
  · obtain rfl : j = 0 := by simpa using hj
    exact hl
  · rw [hc, List.getElem?_set_ne (by simp at hk; omega)]

/-- a scan from `start` that saved `sv1`, continued from the line after those by one that saved `sv2` -/
theorem ScanInv.trans {orig sv1 sv2 : List BLine} {start : Nat} {cur cur' : BState} (h1 : ScanInv orig start cur sv1)
    (h2 : ScanInv cur.lines (start + sv1.length) cur' sv2) : ScanInv orig start cur' (sv1 ++ sv2) := by
  refine ⟨h2.len.trans h1.len, fun j hj => ?_, fun i hi => ?_⟩
  · rw [List.length_append] at hj
    by_cases hjl : j < sv1.length
    · rw [List.getElem?_append_left hjl]; exact h1.saved_orig j hjl
    · rw [List.getElem?_append_right (Nat.le_of_not_lt hjl), ← h2.saved_orig _ (by omega), h1.rest _ (.inr (by omega))]
      congr 1; omega
  · rw [List.length_append] at hi
    rw [h2.rest i (by omega), h1.rest i (by omega)]

/-- every entry of `b` holds a suffix of the text of the corresponding entry of `a` (same line-feed flag).  Totality does not
    need it; it is recorded in `QuoteRun` for the predicates on the line text that pass through containers (`C08c`, `C10q`). -/
def SufLines (a b : List BLine) : Prop :=
  b.length = a.length ∧ ∀ (i : Nat) (lb : BLine), b[i]? = some lb → ∃ la : BLine, a[i]? = some la ∧ lb.text <:+ la.text ∧ lb.hasLF = la.hasLF

theorem SufLines.refl (a : List BLine) : SufLines a a := ⟨rfl, fun _ lb h => ⟨lb, h, List.suffix_refl _, rfl⟩⟩

theorem SufLines.trans {a b c : List BLine} (h1 : SufLines a b) (h2 : SufLines b c) : SufLines a c := by
  refine ⟨by rw [h2.1, h1.1], ?_⟩
  intro i lc hc
  obtain ⟨lb, hb, s1, f1⟩ := h2.2 i lc hc
  obtain ⟨la, ha, s2, f2⟩ := h1.2 i lb hb
  exact ⟨la, ha, List.IsSuffix.trans s1 s2, by rw [f1, f2]⟩

theorem SufLines.set {a b : List BLine} (h : SufLines a b) (i : Nat) (lb l' : BLine) (hb : b[i]? = some lb) (hs : l'.text <:+ lb.text)
    (hf : l'.hasLF = lb.hasLF) : SufLines a (b.set i l') := by
  refine ⟨by rw [List.length_set]; exact h.1, ?_⟩
  intro j lj hj
  by_cases hij : i = j
  · subst hij
    have hi : i < b.length := by
      rcases Nat.lt_or_ge i b.length with h' | h'
      · exact h'
      · rw [List.getElem?_eq_none_iff.mpr h'] at hb; cases hb
    rw [List.getElem?_set_self hi] at hj
    cases hj
    obtain ⟨la, ha, s1, f1⟩ := h.2 i lb hb
    exact ⟨la, ha, List.IsSuffix.trans hs s1, by rw [hf, f1]⟩
  · rw [List.getElem?_set_ne hij] at hj
    exact h.2 j lj hj

theorem quote_inert (codeOn : Bool) (terms inner : List BRule) (mn : Int) : SilentInert (ruleBlockquote codeOn terms inner mn) := by
  intro s line endLine hl
  obtain ⟨l, hg, _⟩ := getL_ok s line hl
  rcases ruleBlockquote_cases codeOn terms inner mn s line endLine true hg with h | h <;> exact ⟨_, h⟩

theorem qTerminators_inert (c : MiniCfg) (ws : List Nat) (mn : Int) : ∀ t ∈ qTerminators c ws mn, SilentInert t := by
  simp only [qTerminators, List.forall_mem_append, forall_mem_opt, List.forall_mem_singleton]
  exact ⟨⟨⟨fun _ => fence_inert _, quote_inert _ _ _ _⟩, fun _ => hr_inert _⟩, fun _ => heading_inert _ _⟩

/-- the end-of-quote search, exactly (`new`: the entries it rewrote, as they were).  `m = cur.lineMax ∨ m = next'`: `lineMax` is
    lowered only when a terminator stopped the search, and then to the terminating line `next'`, where a paragraph of the nested run
    (it scans to `lineMax`) has to stop. -/
theorem quoteScan_run (terms : List BRule) (hin : ∀ t ∈ terms, SilentInert t) (endLine : Nat) :
    ∀ (fuel next : Nat) (le : Bool) (cur : BState) (saved : List BLine),
      endLine - next < fuel → next ≤ endLine → endLine < cur.lines.length →
      ∃ next' L m new, quoteScan terms endLine fuel next le cur saved = .ok (next', { cur with lines := L, lineMax := m }, saved ++ new) ∧
        next ≤ next' ∧ next' ≤ endLine ∧ (m = cur.lineMax ∨ m = next') ∧
        ScanInv cur.lines next { cur with lines := L, lineMax := m } new ∧ SufLines cur.lines L := by
  intro fuel
  induction fuel with
  | zero => intro next _ _ _ h; omega
  | succ n ih =>
    intro next le cur saved hf hne hlen
    rw [quoteScan_succ]
    split
    · obtain ⟨l, hg, hl⟩ := getL_ok cur next (by omega)
      obtain ⟨q, hq, hcases⟩ := quoteScanStep_inert terms hin endLine next le cur saved l hl
      simp only [hg, hq]
      rcases hcases with rfl | rfl | ⟨l', ht, hf', rfl | ⟨le', rfl⟩⟩
      · exact ⟨next, cur.lines, cur.lineMax, [], by rw [List.append_nil], Nat.le_refl _, hne, .inl rfl, .refl cur next rfl, .refl _⟩
      · exact ⟨next, cur.lines, next, [], by rw [List.append_nil], Nat.le_refl _, hne, .inr rfl, .refl cur next rfl, .refl _⟩
      · exact ⟨next, _, next, [l], rfl, Nat.le_refl _, hne, .inr rfl, .set l' hl rfl, (SufLines.refl _).set next l l' hl ht hf'⟩
      · obtain ⟨nx, L, m, new, h1, h2, h3, h4, h5, h6⟩ := ih (next + 1) le' (cur.setLine next l') (saved ++ [l]) (by omega) (by omega)
          (by rw [setLine_lines, List.length_set]; exact hlen)
        exact ⟨nx, L, m, [l] ++ new, h1.trans (by rw [List.append_assoc]; rfl), by omega, h3, h4,
          (ScanInv.set (s' := cur.setLine next l') l' hl rfl).trans h5, ((SufLines.refl _).set next l l' hl ht hf').trans h6⟩
    · exact ⟨next, cur.lines, cur.lineMax, [], by rw [List.append_nil], Nat.le_refl _, hne, .inl rfl, .refl cur next rfl, .refl _⟩

theorem quoteScan_ok (terms : List BRule) (hin : ∀ t ∈ terms, SilentInert t) (orig : List BLine) (start endLine : Nat) :
    ∀ (fuel next : Nat) (le : Bool) (cur : BState) (saved : List BLine),
      endLine - next < fuel → next ≤ endLine → endLine < cur.lines.length → endLine ≤ cur.lineMax →
      ScanInv orig start cur saved → next = start + saved.length →
      ∃ next' s2 saved', quoteScan terms endLine fuel next le cur saved = .ok (next', s2, saved') ∧
        next ≤ next' ∧ next' ≤ endLine ∧ ScanInv orig start s2 saved' ∧
        s2.blkIndent = cur.blkIndent ∧ s2.level = cur.level ∧ s2.tokens = cur.tokens ∧ s2.line = cur.line ∧
        (s2.lineMax = cur.lineMax ∨ s2.lineMax = next') ∧ (∀ i, i < next → s2.lines[i]? = cur.lines[i]?) ∧ s2.listIndent = cur.listIndent := by
  intro fuel next le cur saved hf hne hlen _ hinv hnext
  obtain ⟨nx, L, m, new, h1, h2, h3, h4, h5, _⟩ := quoteScan_run terms hin endLine fuel next le cur saved hf hne hlen
  exact ⟨nx, _, _, h1, h2, h3, hinv.trans (hnext ▸ h5), rfl, rfl, rfl, rfl, h4, fun i hi => h5.rest i (.inl hi), rfl⟩

/-- the call context of a chain with budget `d`: the levels that can still be opened fit into the budget -/
def Lv (mn : Int) (d : Nat) : BState → Nat → Prop := fun s _ => mn + 1 ≤ s.level + (d : Int)

theorem lv_closed (mn : Int) (d : Nat) : FrameClosed (Lv mn d) := fun _ _ _ hf h => by
  unfold Lv at *; rw [hf.level]; exact h

theorem lv_top (mn : Int) (src : List Char) (e : Nat) : Lv mn (mn.toNat + 1) (initBState src) e := by
  unfold Lv; show mn + 1 ≤ (0 : Int) + ((mn.toNat + 1 : Nat) : Int); omega

/-- what the quote rule needs of its nested run -/
def InnerOK (mn : Int) (d : Nat) (inner : List BRule) : Prop :=
  ∀ (s : BState) (startLine endLine : Nat), s.lineMax + 1 ≤ s.lines.length → endLine ≤ s.lineMax → Lv mn d s endLine →
    ∃ s', blockTokenize inner mn s startLine endLine = .ok s' ∧ s.FrameEq s' ∧ LinePost endLine startLine s s'

theorem innerOK_nil (mn : Int) : InnerOK mn 0 [] := fun s startLine endLine hlen hend hlv =>
  block_cut [] mn endLine _ startLine false s hlen hend (by unfold Lv at hlv; simp at hlv; omega) (by omega)

theorem innerOK_of_rules {mn : Int} {d : Nat} {chain : List BRule} (hrules : ∀ r ∈ chain, RuleOK (Lv mn (d + 1)) r)
    (hlast : ∃ r ∈ chain, AlwaysMatches (Lv mn (d + 1)) r) : InnerOK mn (d + 1) chain := fun s startLine endLine hlen hend hlv =>
  block_total_lines (Lv mn (d + 1)) (lv_closed mn (d + 1)) _ hrules hlast mn endLine _ startLine false s hlen hend hlv (by omega)

/-- a nested run that starts on a line which is not outdented ends on a later one -/
theorem InnerOK.run {mn : Int} {d : Nat} {inner : List BRule} (h : InnerOK mn d inner) {s : BState} {line endLine : Nat}
    (hlen : s.lineMax + 1 ≤ s.lines.length) (hend : endLine ≤ s.lineMax) (hlt : line < endLine) (hlv : Lv mn d s endLine)
    (hstart : ∀ l, s.lines[line]? = some l → l.empty = false → s.blkIndent ≤ l.sCount) :
    ∃ s', blockTokenize inner mn s line endLine = .ok s' ∧ s.FrameEq s' ∧ line < s'.line ∧ s'.line ≤ s.lineMax := by
  obtain ⟨s', h1, hf, hp⟩ := h s line endLine hlen hend hlv
  exact ⟨s', h1, hf, (hp.1 hlt).2.2 hstart, (hp.1 hlt).2.1⟩

/-- the nested run inside a matched quote (`s3` enters it, `s4` leaves it), and how the result's tokens come from it -/
def QuoteRun (mn : Int) (d : Nat) (inner : List BRule) (s : BState) (line : Nat) (s' : BState) : Prop :=
  ∃ (s3 s4 : BState) (next : Nat) (openT closeT : Tok),
    s3.level = s.level + 1 ∧ s3.lineMax + 1 ≤ s3.lines.length ∧ next ≤ s3.lineMax ∧ Lv mn d s3 next ∧
    blockTokenize inner mn s3 line next = .ok s4 ∧ s3.FrameEq s4 ∧
    (∀ innerToks, s4.tokens = s3.tokens ++ innerToks →
      s'.tokens = s.tokens ++ ([openT.setMap (some (line, s4.line))] ++ innerToks ++ [closeT])) ∧
    openT.nesting = 1 ∧ openT.level = s.level ∧ openT.type = "blockquote_open" ∧
    closeT.nesting = -1 ∧ closeT.level = s4.level - 1 ∧ closeT.type = "blockquote_close" ∧
    s'.line = s4.line ∧ closeT.map = none ∧ SufLines s.lines s3.lines

theorem quote_shape (mn : Int) (d : Nat) (codeOn : Bool) (terms : List BRule) (hin : ∀ t ∈ terms, SilentInert t)
    (inner : List BRule) (hinner : InnerOK mn d inner) (s : BState) (line endLine : Nat)
    (hc : CallCtx (Lv mn (d + 1)) s line endLine) :
    ruleBlockquote codeOn terms inner mn s line endLine false = .ok (false, s) ∨
    ∃ s', ruleBlockquote codeOn terms inner mn s line endLine false = .ok (true, s') ∧ s.FrameEq s' ∧ line < s'.line ∧ s'.line ≤ s.lineMax
      ∧ QuoteRun mn d inner s line s' := by
  obtain ⟨l0, hl0, _, _⟩ := hc.here
  rcases ruleBlockquote_cases codeOn terms inner mn s line endLine false (getL_of_here hl0) with h | h
  · exact .inl h
  right
  have hlen := hc.len; have hle := hc.le; have hlt := hc.lt
  have hl1 : (quoteStart s line l0).lines = s.lines.set line (quoteStrip l0).1 := rfl
  obtain ⟨next, L, m, new, hscan, hn1, hn2, hm, hinv, hsuf⟩ := quoteScan_run terms hin endLine (endLine - line + 1) (line + 1) (quoteStrip l0).2
    (quoteStart s line l0) [l0] (by omega) (by omega) (by rw [hl1, List.length_set]; omega)
  -- counted from the entry state: the rule itself has stripped and saved the first line
  have hinv0 := (ScanInv.set _ hl0 hl1).trans hinv
  have hsuf0 : SufLines s.lines L := ((SufLines.refl s.lines).set line l0 _ hl0 (quoteStrip_suf l0).1 (quoteStrip_suf l0).2).trans hsuf
  have hL : L.length = s.lines.length := hinv0.len
  have hm' : m + 1 ≤ L.length ∧ next ≤ m ∧ m ≤ s.lineMax := by
    rcases hm with rfl | rfl
    · exact ⟨by rw [hL]; exact hlen, Nat.le_trans hn2 hle, Nat.le_refl _⟩
    · omega
  have hLv3 : Lv mn d (quoteEnter { quoteStart s line l0 with lines := L, lineMax := m } line) next := by
    have hL : mn + 1 ≤ s.level + ((d + 1 : Nat) : Int) := hc.extra
    show mn + 1 ≤ s.level + 1 + (d : Int)
    omega
  -- the nested run starts on the stripped first line, which is not outdented
  obtain ⟨s4, hrun, hfr4, hgt4, hle4⟩ := hinner.run hm'.1 hm'.2.1 (by omega : line < next) hLv3 fun l hl _ => by
      have hl' : L[line]? = some l := hl
      rw [hinv.rest line (.inl (Nat.lt_succ_self _)), hl1, List.getElem?_set_self (by omega)] at hl'
      cases hl'
      exact quoteStrip_sCount l0
  have h4 : s4.level = s.level + 1 := hfr4.level
  rw [h, if_neg Bool.false_ne_true, quoteRun, hscan]
  simp only [hrun]
  refine ⟨_, rfl, ?_⟩
  rw [quoteLeave_eq]
  refine ⟨⟨⟨restore_lines s.lines line _ _ hinv0 _ hfr4.lines, hfr4.listIndent⟩, rfl, rfl, by show s4.level - 1 = s.level; omega⟩, hgt4,
    Nat.le_trans hle4 hm'.2.2, _, s4, next, pushedTok s "blockquote_open" "blockquote" 1 (some (line, 0)) none "" ">" "",
    pushedTok s4 "blockquote_close" "blockquote" (-1) none none "" ">" "", rfl, hm'.1, hm'.2.1, hLv3, hrun, hfr4, fun innerToks h4t => ?_, rfl, rfl, rfl, rfl, rfl, rfl, rfl, rfl, hsuf0⟩
  show List.modify (s4.tokens ++ _) s.tokens.length _ = _
  rw [h4t]
  exact modify_wrap ..

theorem ruleOK_blockquote (mn : Int) (d : Nat) (codeOn : Bool) (terms : List BRule) (hin : ∀ t ∈ terms, SilentInert t)
    (inner : List BRule) (hinner : InnerOK mn d inner) : RuleOK (Lv mn (d + 1)) (ruleBlockquote codeOn terms inner mn) :=
  ruleOK_of_cases fun s line endLine hc => (quote_shape mn d codeOn terms hin inner hinner s line endLine hc).imp
    (fun h => ⟨_, h⟩) fun ⟨s', h, hf, h1, h2, _⟩ => ⟨s', h, hf, h1, h2⟩

/-- `hl`: the contract of the list rule over any chain whose runs are total (`ruleOK_list` in `C01d`); a family without lists does not
    need it -/
theorem tower_ok {mn : Int} {leaves : List BRule} {lst : Bool} {ch : Nat → List BRule} (T : Tower mn leaves lst ch)
    (hl : lst = true → ∀ d codeOn terms, (∀ t ∈ terms, SilentInert t) → ∀ inner, InnerOK mn d inner →
      RuleOK (Lv mn (d + 1)) (ruleList codeOn terms inner mn)) :
    ∀ d : Nat, (∀ r ∈ ch d, RuleOK (Lv mn d) r) ∧ InnerOK mn d (ch d) :=
  T.induct (I := fun d => InnerOK mn d (ch d))
    (fun d h => match d with
      | 0 => T.zero ▸ innerOK_nil mn
      | d + 1 => innerOK_of_rules h (T.last d _))
    (fun _ => T.leaf_ok _) (fun d codeOn terms hin hi => ruleOK_blockquote mn d codeOn terms hin _ hi)
    (fun h d codeOn terms hin hi => hl h d codeOn terms hin _ hi)

theorem qTower (c : MiniCfg) (ws : List Nat) (mn : Int) : Tower mn (C02.qLeaves c ws mn) false (qChain c ws mn) where
  zero := rfl
  rule d r h := (C02.mem_qChain c ws mn d r h).elim .leaf fun h => h ▸ .quote _ (qTerminators_inert c ws mn)
  leaf_ok P := ruleOK_leaves P c (inertE_of_inert (qTerminators_inert c ws mn)) ws
  last d P := ⟨ruleParagraph (qTerminators c ws mn) ws, by simp [qChain], paragraph_always _ _ (qTerminators_inert c ws mn) ws⟩

theorem qChain_ok (c : MiniCfg) (ws : List Nat) (mn : Int) : ∀ d : Nat,
    (∀ r ∈ qChain c ws mn d, RuleOK (Lv mn d) r) ∧ InnerOK mn d (qChain c ws mn d) :=
  tower_ok (qTower c ws mn) nofun

theorem parse_total (mn : Int) (chain : List BRule) (h : InnerOK mn (mn.toNat + 1) chain) (src : List Char) :
    ∃ st, blockParse chain mn src = .ok st :=
  blockParse_total ((h _ 0 _ (initBState_len _) (Nat.le_refl _) (lv_top mn _ _)).imp fun _ h => h.1)

/-- **C01.q_total** — with block quotes in the chain: for every source, every subset of `code`, `fence`, `hr`, `heading`,
every white-space table and every `maxNesting`, the modelled parse (normalize, line scan, block loop, nested runs of the
quote rule to any depth) returns a token list -/
theorem q_total (c : MiniCfg) (ws : List Nat) (maxNesting : Int) (src : List Char) :
    ∃ ts, qParse c ws maxNesting src = .ok ts :=
  parseWith_total (parse_total maxNesting _ (qChain_ok c ws maxNesting _).2 src)

/-! non-vacuity: nested quotes, a lazy line, a terminator -/
example : typesOf (qParse ⟨true, true, true, true⟩ [32, 9, 10] 100 "> > a\nlazy\n> # h\n***\n".toList)
    = some ["blockquote_open", "blockquote_open", "paragraph_open", "inline", "paragraph_close", "blockquote_close",
            "heading_open", "inline", "heading_close", "blockquote_close", "hr"] := by decide +kernel

end MdIt.C01
