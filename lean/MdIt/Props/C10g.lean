import MdIt.Props.C05e
import MdIt.Props.C10n
/-!
# C10 (continued) — token provenance end to end, at every depth: a rule that is off leaves no token of its kinds

The deep token engine (`C05.core_deep`, `ParseN`) instantiated with predicates on the token *type* (`ty_parseN`): for every predicate `Q`
on type names that the tokens of the enabled rules satisfy, every token below every `inline` token of a whole parse — in the children and
in all image descriptions nested in them — has a type satisfying `Q` (`full_types`; with the `table` rule `fullT_types`).  With `Q` = "is
in the vocabulary of the enabled inline rules": `full_provenance`, `fullT_provenance`.
-/
namespace MdIt.C10
open MdIt.C01 MdIt.C05

/-- what `Q` must accept, rule by rule -/
structure TyLeaf (Q : String → Prop) (html newline escape backticks autolink htmlInline entity : Bool) : Prop where
  hardbreak : (newline || escape) = true → Q "hardbreak"
  softbreak : newline = true → Q "softbreak"
  special : (escape || entity) = true → Q "text_special"
  code : backticks = true → Q "code_inline"
  auto : autolink = true → Q "link_open" ∧ Q "link_close"
  html : htmlInline = true → html = true → Q "html_inline"

theorem ty_closed {Q : String → Prop} (E : List String) (hT : Q "text") (hE : ∀ ty ∈ E, Q ty) : TokClosed (fun t => Q t.type) E := by
  refine ⟨fun _ _ => hT, ?_, ?_, ?_⟩
  · intro t l h; cases t; exact h
  · intro t c h; cases t; exact h
  · intro t ty tag n mk _ hty; simp only [Tok.setEmph_type]; exact hE ty hty

theorem ty_joinClosed {Q : String → Prop} (hT : Q "text") : JoinClosed (fun t => Q t.type) :=
  ⟨fun t _ h => by cases t; exact h, fun t _ h => by cases t; exact h, fun _ _ _ _ _ _ _ _ _ _ _ _ _ => hT⟩

/-- the hypotheses of `full_types`, over the list `inlineAllowed` -/
theorem tyLeaf_allowed {Q : String → Prop} {html : Bool} {ic : ICfg}
    (hT : Q "text") (hLk : ic.link = true → Q "link_open" ∧ Q "link_close") (hIm : ic.image = true → Q "image")
    (hE : ∀ ty ∈ emphTypes ic.strike ic.emphasis, Q ty)
    (hF : TyLeaf Q html ic.newline ic.escape ic.backticks ic.autolink ic.htmlInline ic.entity) : ∀ ty ∈ inlineAllowed html ic, Q ty := by
  intro ty h
  simp only [inlineAllowed, List.mem_append, List.mem_ite_nil_right, List.mem_cons, List.not_mem_nil, or_false, Bool.or_eq_true,
    Bool.and_eq_true] at h
  -- the alternatives in the order of `inlineAllowed`
  rcases h with (((((((rfl | ⟨hh, rfl⟩) | ⟨hh, rfl⟩) | ⟨hh, rfl⟩) | ⟨hh, rfl⟩) | ⟨hl | ha, rfl | rfl⟩) | ⟨hh, rfl⟩) | ⟨⟨h1, h2⟩, rfl⟩) | h
  · exact hT
  · exact hF.hardbreak (Bool.or_eq_true _ _ ▸ hh)
  · exact hF.softbreak hh
  · exact hF.special (Bool.or_eq_true _ _ ▸ hh)
  · exact hF.code hh
  · exact (hLk hl).1
  · exact (hLk hl).2
  · exact (hF.auto ha).1
  · exact (hF.auto ha).2
  · exact hIm hh
  · exact hF.html h1 h2
  · exact hE ty h

theorem ty_parseN (ext : IExt) (lx : LExt) (ic : ICfg) {Q : String → Prop} (hQ : ∀ ty ∈ inlineAllowed ext.html ic, Q ty) :
    ParseN ext lx ic (fun t => Q t.type) where
  fields t u e h := by simp only [Prod.mk.injEq] at e; exact e.1 ▸ h
  plain t h _ _ := hQ _ h
  linkOpen hl t _ _ hty _ _ _ := hty ▸ hQ _ (by simp [inlineAllowed, hl])
  image hi t _ _ hty _ _ _ := hty ▸ hQ _ (by simp [inlineAllowed, hi])

/-- **the generic end-to-end statement**: the types below every `inline` token of a whole parse satisfy `Q` -/
theorem full_types (cls : QCls) (ext : IExt) (lx : LExt) (bc : MCfg) (ic : ICfg) (hon : ic.inlineOn = true) {Q : String → Prop}
    (hT : Q "text") (hLk : ic.link = true → Q "link_open" ∧ Q "link_close") (hIm : ic.image = true → Q "image")
    (hE : ∀ ty ∈ emphTypes ic.strike ic.emphasis, Q ty)
    (hF : TyLeaf Q ext.html ic.newline ic.escape ic.backticks ic.autolink ic.htmlInline ic.entity)
    (ws : List Nat) (mn : Int) (d : Nat) (src : List Char) (ts : List Tok) (h : fullParse cls ext lx bc ic ws mn d src = .ok ts) :
    ∀ t ∈ ts, t.type ∈ mAllowed bc ∧ (t.type = "inline" → ∀ x ∈ descOpt t.children, Q x.type) :=
  full_deep (ty_parseN ext lx ic (tyLeaf_allowed hT hLk hIm hE hF)) cls bc hon ws mn d src ts h

/-- **C10.full_provenance** — `MarkdownIt.parse` end to end on the modelled sub-language: every top-level token has a type of the
block vocabulary of the enabled block rules, and every token below an `inline` token — at every depth of nested image descriptions —
has a type of the vocabulary of the *enabled* inline rules: a rule that is switched off leaves no token of its kinds (no `image` without
the image rule, no `link_open` without `link` and `autolink`, no `html_inline` without the rule *and* the `html` option, no `em_*` /
`strong_*` / `s_*` without emphasis / strikethrough, …). -/
theorem full_provenance (cls : QCls) (ext : IExt) (lx : LExt) (bc : MCfg) (ic : ICfg) (hon : ic.inlineOn = true)
    (ws : List Nat) (mn : Int) (d : Nat) (src : List Char) (ts : List Tok) (h : fullParse cls ext lx bc ic ws mn d src = .ok ts) :
    ∀ t ∈ ts, t.type ∈ mAllowed bc ∧ (t.type = "inline" → ∀ x ∈ descOpt t.children, x.type ∈ inlineAllowed ext.html ic) :=
  full_deep (ty_parseN ext lx ic fun _ h => h) cls bc hon ws mn d src ts h

/-- the types of a parse: top-level tokens, the descendants of each `inline` token in brackets -/
def fullTypes (r : Except PyErr (List Tok)) : Option (List String) :=
  match r with
  | .ok ts => some (ts.flatMap (fun t => t.type :: (if t.type == "inline" then ["("] ++ (descOpt t.children).map Tok.type ++ [")"] else [])))
  | .error _ => none

/-! non-vacuity: with `image` and `emphasis` off the text yields no `image` / `em_open` token (the `*` stay text; `![i](/s)` is a `!`
followed by a link, since `link` is on) -/
example : fullTypes (fullParse C02f.asciiCls ext0 C01.lx0
      { code := true, fence := true, hr := true, heading := true, htmlBlock := false, lheading := true, html := false }
      { text := true, newline := true, escape := true, backticks := true, strike := false, emphasis := false, link := true, image := false,
        autolink := false, htmlInline := false, entity := false, fragJoin := true, inlineOn := true, textJoinOn := true }
      [32, 9, 10, 11, 12, 13] 20 40 "> *a* ![i](/s) [l](/u) `c`\n".toList)
    = some ["blockquote_open", "paragraph_open", "inline", "(", "text", "link_open", "text", "link_close", "text", "link_open", "text", "link_close",
            "text", "code_inline", ")", "paragraph_close", "blockquote_close"] := by decide +kernel

/-- the reference table the inline rules read is the one the block parse leaves, hence `ParseN` for every table -/
theorem fullT_deep {ext : IExt} {ic : ICfg} {N : Tok → Prop} (hN : ∀ lx, ParseN ext lx ic N) (cls : QCls) (lx : LExt) (tc : TCfg)
    (hnr : tc.reference = false) (hon : ic.inlineOn = true) (ws : List Nat) (mn : Int) (d : Nat) (src : List Char) (ts : List Tok) (refs dups)
    (h : fullParseT cls ext lx tc ic ws mn d src = .ok (ts, refs, dups)) : ∀ t ∈ ts, t.type ∈ tAllowed tc ∧ InlineDeep N t := by
  obtain ⟨st, hb, hc, _⟩ := fullParseT_iff.1 h
  exact fun t ht => ⟨coreTail_types hc (t_provenance ext lx tc hnr ws mn src st hb) t ht, core_deep (hN _) hon hc t ht⟩

theorem fullT_types (cls : QCls) (ext : IExt) (lx : LExt) (tc : TCfg) (hnr : tc.reference = false) (ic : ICfg) (hon : ic.inlineOn = true)
    {Q : String → Prop}
    (hT : Q "text") (hLk : ic.link = true → Q "link_open" ∧ Q "link_close") (hIm : ic.image = true → Q "image")
    (hE : ∀ ty ∈ emphTypes ic.strike ic.emphasis, Q ty)
    (hF : TyLeaf Q ext.html ic.newline ic.escape ic.backticks ic.autolink ic.htmlInline ic.entity)
    (ws : List Nat) (mn : Int) (d : Nat) (src : List Char) (ts : List Tok) (refs dups)
    (h : fullParseT cls ext lx tc ic ws mn d src = .ok (ts, refs, dups)) :
    ∀ t ∈ ts, t.type ∈ tAllowed tc ∧ (t.type = "inline" → ∀ x ∈ descOpt t.children, Q x.type) :=
  fullT_deep (fun lx' => ty_parseN ext lx' ic (tyLeaf_allowed hT hLk hIm hE hF)) cls lx tc hnr hon ws mn d src ts refs dups h

/-- **C10.fullT_provenance** — `full_provenance` with the `table` rule: every top-level token has a type of the enabled block rules'
vocabulary (table tokens only with the table rule), every token below an `inline` token (table cells included) a type of the enabled
inline rules' vocabulary. -/
theorem fullT_provenance (cls : QCls) (ext : IExt) (lx : LExt) (tc : TCfg) (hnr : tc.reference = false) (ic : ICfg) (hon : ic.inlineOn = true)
    (ws : List Nat) (mn : Int) (d : Nat) (src : List Char) (ts : List Tok) (refs dups)
    (h : fullParseT cls ext lx tc ic ws mn d src = .ok (ts, refs, dups)) :
    ∀ t ∈ ts, t.type ∈ tAllowed tc ∧ (t.type = "inline" → ∀ x ∈ descOpt t.children, x.type ∈ inlineAllowed ext.html ic) :=
  fullT_deep (fun lx' => ty_parseN ext lx' ic fun _ h => h) cls lx tc hnr hon ws mn d src ts refs dups h

end MdIt.C10
