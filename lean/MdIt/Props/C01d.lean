import MdIt.Props.C01c
import MdIt.Proofs.BlockList
/-!
# C01 (continued) — the list rule satisfies its contract; the sub-parser with block quotes and lists is total

One item (open, line-table rewrite, nested run or the empty-item workaround, restore, close) returns with the frame of its
entry state and `state.line` strictly later, inside the tables; the item loop keeps that, and the rule's contract follows over
any inner chain whose runs are total.  `tower_ok` for the family `lChain` then has both containers.
-/
namespace MdIt.C01

theorem list_inert (codeOn : Bool) (terms inner : List BRule) (mn : Int) : SilentInert (ruleList codeOn terms inner mn) := by
  intro s line endLine hl
  obtain ⟨l, hg, _⟩ := getL_ok s line hl
  rcases ruleList_cases codeOn terms inner mn s line endLine true hg with h | ⟨_, _, _, h⟩ <;> exact ⟨_, h⟩

theorem lListTerms_inert (c : MiniCfg) (mn : Int) : ∀ t ∈ lListTerms c mn, SilentInert t := by
  simp only [lListTerms, List.forall_mem_append, forall_mem_opt, List.forall_mem_singleton]
  exact ⟨⟨fun _ => fence_inert _, quote_inert _ _ _ _⟩, fun _ => hr_inert _⟩

theorem lTerminators_inert (c : MiniCfg) (ws : List Nat) (mn : Int) : ∀ t ∈ lTerminators c ws mn, SilentInert t := by
  simp only [lTerminators, List.forall_mem_append, forall_mem_opt, List.forall_mem_singleton]
  exact ⟨⟨⟨⟨fun _ => fence_inert _, quote_inert _ _ _ _⟩, fun _ => hr_inert _⟩, list_inert _ _ _ _⟩, fun _ => heading_inert _ _⟩

theorem retab_retab (l : BLine) (a : Nat) (b : Int) : (l.retab a b).retab l.tShift l.sCount = l := by
  cases l; rfl

theorem lLoop_ge (bs : Nat) (text : List Char) (offset : Int) (n : Nat) : offset ≤ (lLoop bs offset text n).1 :=
  lLoop_eq_qLoop bs text offset n ▸ qLoop_ge bs 0 text offset n

/-- the hypotheses of `listItems_ok` at the start state of a list -/
theorem listOpen_ctx {mn : Int} {d : Nat} {s s2 : BState} {line endLine : Nat} (hc : CallCtx (Lv mn (d + 1)) s line endLine)
    (h : s.FrameEq' s2) :
    s2.lineMax + 1 ≤ s2.lines.length ∧ endLine ≤ s2.lineMax ∧ s2.line = line ∧ mn + 1 ≤ s2.level + 1 + (d : Int) ∧ line ≤ s2.lineMax := by
  obtain ⟨h1, h2, _, _, h5, h6⟩ := h
  have := hc.len; have := hc.le; have := hc.lt; have := hc.cur
  have hL : mn + 1 ≤ s.level + ((d + 1 : Nat) : Int) := hc.extra
  rw [h1, h2, h5, h6]
  omega

theorem listNested_ok (mn : Int) (d : Nat) (inner : List BRule) (hinner : InnerOK mn d inner) (endLine : Nat) (s2 : BState)
    (startLine : Nat) (ce : Bool) (hlen : s2.lineMax + 1 ≤ s2.lines.length) (hend : endLine ≤ s2.lineMax) (hlt : startLine < endLine)
    (hline : s2.line = startLine) (hlv : Lv mn d s2 endLine)
    (hstart : ∀ l, s2.lines[startLine]? = some l → l.empty = false → s2.blkIndent ≤ l.sCount) :
    ∃ s3, listNested inner mn endLine s2 startLine ce = .ok s3 ∧ s2.FrameEq s3 ∧ startLine < s3.line ∧ s3.line ≤ s2.lineMax := by
  unfold listNested
  have hscr : ∃ b, (if ce = true then s2.isEmpty ((startLine : Int) + 1) else Except.ok false) = .ok b := by
    split
    · have := isEmpty_ok s2 (startLine + 1) (by omega)
      simpa using this
    · exact ⟨false, rfl⟩
  obtain ⟨b, hb⟩ := hscr
  rw [hb]
  cases b with
  | true =>
    refine ⟨_, rfl, ⟨⟨rfl, rfl⟩, rfl, rfl, rfl⟩, ?_, ?_⟩
    · show startLine < min (s2.line + 2) endLine
      rw [hline]; omega
    · show min (s2.line + 2) endLine ≤ s2.lineMax
      omega
  | false => exact hinner.run hlen hend hlt hlv hstart

theorem listClose_ok (markerChar : Char) (s s1 : BState) (l : BLine) (ntok startLine : Nat) (s3 : BState) (a : Nat) (b : Int)
    (hl : s.lines[startLine]? = some l)
    (h3lines : s3.lines = s.lines.set startLine (l.retab a b)) (h3max : s3.lineMax = s.lineMax) (h3li : s3.listIndent = s.blkIndent)
    (h3lvl : s3.level = s.level + 1) (h1li : s1.listIndent = s.listIndent)
    (hlen : s.lineMax + 1 ≤ s.lines.length) (hgt : startLine < s3.line) (hle : s3.line ≤ s.lineMax) (hsl : startLine < s.lines.length) :
    ∃ s6 nt pe, listClose markerChar s1 l ntok startLine s3 = .ok (s6, nt, pe) ∧ s.FrameEq s6 ∧ s6.line = s3.line := by
  unfold listClose
  have hpe : ∃ pe, (if s3.line - startLine > 1 then s3.isEmpty ((s3.line : Int) - 1) else Except.ok false) = .ok pe := by
    split
    · have := isEmpty_ok s3 (s3.line - 1) (by rw [h3lines, List.length_set]; omega)
      have hc : ((s3.line - 1 : Nat) : Int) = (s3.line : Int) - 1 := by omega
      rw [hc] at this; exact this
    · exact ⟨false, rfl⟩
  obtain ⟨pe, hpe⟩ := hpe
  simp only [hpe]
  have hg3 : getL s3 startLine = .ok (l.retab a b) := by
    apply getL_of_here; rw [h3lines, List.getElem?_set_self hsl]
  simp only [hg3, retab_retab]
  refine ⟨_, _, _, rfl, ⟨⟨?_, ?_⟩, ?_, ?_, ?_⟩, rfl⟩
  · show (s3.lines.set startLine l) = s.lines
    rw [h3lines]; exact set_set_self _ _ _ _ hl
  · exact h1li
  · exact h3max
  · exact h3li
  · simp only [pushFull_level_close]
    show s3.level - 1 = s.level
    omega

theorem listItem_ok (mn : Int) (d : Nat) (ordered : Bool) (markerChar : Char) (inner : List BRule) (hinner : InnerOK mn d inner)
    (endLine : Nat) (s : BState) (startLine markerLen : Nat)
    (hlen : s.lineMax + 1 ≤ s.lines.length) (hend : endLine ≤ s.lineMax) (hlt : startLine < endLine) (hline : s.line = startLine)
    (hlv : mn + 1 ≤ s.level + 1 + (d : Int)) :
    ∃ s6 nt pe, listItem ordered markerChar inner mn endLine s startLine markerLen = .ok (s6, nt, pe) ∧ s.FrameEq s6
      ∧ startLine < s6.line ∧ s6.line ≤ s.lineMax := by
  obtain ⟨l, hg, hl⟩ := getL_ok s startLine (by omega)
  rw [listItem_eq _ _ _ _ _ _ _ _ hg]
  have e2lines := itemEnter_lines ordered markerChar s l startLine markerLen
  have e2lvl := itemEnter_level ordered markerChar s l startLine markerLen
  have hsl : startLine < s.lines.length := by omega
  obtain ⟨s3, h3, hf3, hgt3, hle3⟩ := listNested_ok mn d inner hinner endLine (itemEnter ordered markerChar s l startLine markerLen) startLine
    (decide ((List.drop markerLen l.body).length ≤ (itemScan l markerLen).2))
    (by rw [e2lines, List.length_set]; exact hlen) hend hlt hline (by unfold Lv; rw [e2lvl]; omega)
    (by
      -- the item's first line, if it has content, stands at the item's content column
      intro l2 hl2 hne
      rw [e2lines, List.getElem?_set_self hsl] at hl2
      cases hl2
      show listIndentOf l markerLen (itemScan l markerLen) ≤ (itemScan l markerLen).1
      have hge : _ ≤ (itemScan l markerLen).1 := lLoop_ge l.bs (List.drop markerLen l.body) ((l.sCount : Int) + (markerLen : Int)) 0
      have hne' : ¬ ((List.drop markerLen l.body).length ≤ (itemScan l markerLen).2) := by
        intro hc
        have : (l.retab (l.tShift + markerLen + (itemScan l markerLen).2) (itemScan l markerLen).1).empty = true := by
          show decide (l.text.length ≤ l.tShift + markerLen + (itemScan l markerLen).2) = true
          have hb : l.body.length = l.text.length - l.tShift := by simp [BLine.body]
          simp only [List.length_drop] at hc
          simp only [decide_eq_true_eq]
          omega
        rw [this] at hne; cases hne
      simp only [listIndentOf, hne', decide_false, Bool.false_eq_true, if_false]
      split <;> omega)
  rw [h3]
  obtain ⟨s6, nt, pe, hc, hf6, hl6⟩ := listClose_ok markerChar s (itemOpen ordered markerChar s l startLine markerLen) l s.tokens.length
    startLine s3 (l.tShift + markerLen + (itemScan l markerLen).2) (itemScan l markerLen).1 hl
    (by rw [hf3.lines, e2lines]) hf3.lineMax hf3.listIndent (by rw [hf3.level, e2lvl]) rfl hlen hgt3 hle3 hsl
  exact ⟨s6, nt, pe, hc, hf6, by rw [hl6]; exact hgt3, by rw [hl6]; exact hle3⟩

/-- `st'.startLine` is the line the list ends on -/
theorem listItems_ok (mn : Int) (d : Nat) (codeOn ordered : Bool) (markerChar : Char) (terms : List BRule) (hin : ∀ t ∈ terms, SilentInert t)
    (inner : List BRule) (hinner : InnerOK mn d inner) (endLine : Nat) :
    ∀ (fuel : Nat) (st : ListSt), endLine - st.startLine < fuel → st.s.lineMax + 1 ≤ st.s.lines.length → endLine ≤ st.s.lineMax →
      st.s.line = st.startLine → mn + 1 ≤ st.s.level + 1 + (d : Int) → st.startLine ≤ st.s.lineMax →
      ∃ st', listItems codeOn ordered markerChar terms inner mn endLine fuel st = .ok st' ∧ st.s.FrameEq st'.s
        ∧ st.startLine ≤ st'.startLine ∧ (st.startLine < endLine → st.startLine < st'.startLine) ∧ st'.startLine ≤ st.s.lineMax
        := by
  intro fuel
  induction fuel with
  | zero => intro st h; omega
  | succ n ih =>
    intro st hf hlen hend hline hlv hsm
    rw [listItems_succ]
    split
    · rename_i hn
      exact ⟨st, rfl, frameEq_refl _, Nat.le_refl _, fun h => absurd h hn, hsm⟩
    · rename_i hlt
      have hlt' : st.startLine < endLine := by simpa using hlt
      obtain ⟨s6, nt, pe, hitem, hf6, hgt6, hle6⟩ := listItem_ok mn d ordered markerChar inner hinner endLine st.s st.startLine st.markerLen
        hlen hend hlt' hline hlv
      obtain ⟨o, hnext⟩ := listNext_inert codeOn ordered markerChar terms hin endLine s6 (by rw [hf6.lines]; omega)
      simp only [hitem, hnext]
      cases o with
      | none => exact ⟨_, rfl, hf6, Nat.le_of_lt hgt6, fun _ => hgt6, hle6⟩
      | some mlen =>
        obtain ⟨st', h1, h2, h3, _, h5⟩ := ih
          { s := s6, startLine := s6.line, markerLen := mlen, tight := (if (!nt || st.prevEmptyEnd) = true then false else st.tight), prevEmptyEnd := pe }
          (by show endLine - s6.line < n; omega) (by rw [hf6.lines, hf6.lineMax]; exact hlen) (by rw [hf6.lineMax]; exact hend) rfl
          (by rw [hf6.level]; exact hlv) (by show s6.line ≤ s6.lineMax; rw [hf6.lineMax]; exact hle6)
        have h3' : s6.line ≤ st'.startLine := h3
        have h5' : st'.startLine ≤ s6.lineMax := h5
        exact ⟨st', h1, frameEq_trans hf6 h2, by omega, fun _ => by omega, by rw [hf6.lineMax] at h5'; exact h5'⟩

theorem listOpenState_frame (s : BState) (ordered : Bool) (mc : Char) (mv line : Nat) : s.FrameEq' (listOpenState s ordered mc mv line) := by
  rw [listOpenState_eq]
  exact ⟨rfl, rfl, rfl, rfl, rfl, rfl⟩

theorem listRun_ok (mn : Int) (d : Nat) (codeOn ordered : Bool) (markerChar : Char) (mlen mv : Nat) (terms : List BRule)
    (hin : ∀ t ∈ terms, SilentInert t) (inner : List BRule) (hinner : InnerOK mn d inner) (s : BState) (line endLine : Nat)
    (hc : CallCtx (Lv mn (d + 1)) s line endLine) :
    ∃ s', listRun codeOn ordered markerChar mlen mv terms inner mn s line endLine = .ok (true, s') ∧ s.FrameEq s' ∧ line < s'.line
      ∧ s'.line ≤ s.lineMax := by
  rw [listRun_eq]
  have hs2f := listOpenState_frame s ordered markerChar mv line
  generalize listOpenState s ordered markerChar mv line = s2 at hs2f ⊢
  obtain ⟨a1, a2, a3, a4, a5⟩ := listOpen_ctx hc hs2f
  obtain ⟨st, hst, hfst, _, hgt, hle⟩ := listItems_ok mn d codeOn ordered markerChar terms hin inner hinner endLine (endLine - line + 1)
    { s := s2, startLine := line, markerLen := mlen, tight := true, prevEmptyEnd := false }
    (by show endLine - line < endLine - line + 1; omega) a1 a2 a3 a4 a5
  simp only [hst]
  have hgt' : line < st.startLine := hgt hc.lt
  have hle' : st.startLine ≤ s.lineMax := by have : st.startLine ≤ s2.lineMax := hle; rw [hs2f.lineMax] at this; exact this
  have hlvl : st.s.level = s.level + 1 := by rw [hfst.level]; exact hs2f.level
  rw [listFinish_eq]
  exact ⟨_, rfl, ⟨⟨hfst.lines.trans hs2f.lines, hfst.listIndent.trans hs2f.listIndent⟩, hfst.lineMax.trans hs2f.lineMax, hfst.blkIndent.trans hs2f.blkIndent,
    by show st.s.level - 1 = s.level; omega⟩, hgt', hle'⟩

theorem list_shape (mn : Int) (d : Nat) (codeOn : Bool) (terms : List BRule) (hin : ∀ t ∈ terms, SilentInert t)
    (inner : List BRule) (hinner : InnerOK mn d inner) (s : BState) (line endLine : Nat)
    (hc : CallCtx (Lv mn (d + 1)) s line endLine) :
    ruleList codeOn terms inner mn s line endLine false = .ok (false, s) ∨
    ∃ s', ruleList codeOn terms inner mn s line endLine false = .ok (true, s') ∧ s.FrameEq s' ∧ line < s'.line ∧ s'.line ≤ s.lineMax := by
  obtain ⟨l, hl, _, _⟩ := hc.here
  rcases ruleList_cases codeOn terms inner mn s line endLine false (getL_of_here hl) with h | ⟨ordered, mc, mlen, h⟩
  · exact .inl h
  · rw [h]
    exact .inr (listRun_ok mn d codeOn ordered mc mlen _ terms hin inner hinner s line endLine hc)

theorem ruleOK_list (mn : Int) (d : Nat) (codeOn : Bool) (terms : List BRule) (hin : ∀ t ∈ terms, SilentInert t)
    (inner : List BRule) (hinner : InnerOK mn d inner) : RuleOK (Lv mn (d + 1)) (ruleList codeOn terms inner mn) :=
  ruleOK_of_cases fun s line endLine hc => (list_shape mn d codeOn terms hin inner hinner s line endLine hc).imp (fun h => ⟨_, h⟩) id

theorem lTower (c : MiniCfg) (ws : List Nat) (mn : Int) : Tower mn (C02.lLeaves c ws mn) true (lChain c ws mn) where
  zero := rfl
  rule d r h := by
    rcases C02.mem_lChain c ws mn d r h with h | rfl | rfl
    · exact .leaf h
    · exact .quote _ (lTerminators_inert c ws mn)
    · exact .list _ rfl (lListTerms_inert c mn)
  leaf_ok P := ruleOK_leaves P c (inertE_of_inert (lTerminators_inert c ws mn)) ws
  last d P := ⟨ruleParagraph (lTerminators c ws mn) ws, by simp [lChain], paragraph_always _ _ (lTerminators_inert c ws mn) ws⟩

theorem lChain_ok (c : MiniCfg) (ws : List Nat) (mn : Int) : ∀ d : Nat,
    (∀ r ∈ lChain c ws mn d, RuleOK (Lv mn d) r) ∧ InnerOK mn d (lChain c ws mn d) :=
  tower_ok (lTower c ws mn) fun _ => ruleOK_list mn

/-- **C01.l_total** — block quotes and lists in the chain, nested in each other to any depth: for every source, every subset of
`code`, `fence`, `hr`, `heading`, every white-space table and every `maxNesting`, the modelled parse returns a token list -/
theorem l_total (c : MiniCfg) (ws : List Nat) (maxNesting : Int) (src : List Char) :
    ∃ ts, lParse c ws maxNesting src = .ok ts :=
  parseWith_total (parse_total maxNesting _ (lChain_ok c ws maxNesting _).2 src)

/-! non-vacuity: nested lists and quotes, a loose list, an ordered list with a start number -/
example : typesOf (lParse ⟨true, true, true, true⟩ [32, 9, 10] 100 "- a\n  > q\n\n  b\n- c\n\n3. x\n".toList)
    = some ["bullet_list_open", "list_item_open", "paragraph_open", "inline", "paragraph_close", "blockquote_open", "paragraph_open",
            "inline", "paragraph_close", "blockquote_close", "paragraph_open", "inline", "paragraph_close", "list_item_close",
            "list_item_open", "paragraph_open", "inline", "paragraph_close", "list_item_close", "bullet_list_close",
            "ordered_list_open", "list_item_open", "paragraph_open", "inline", "paragraph_close", "list_item_close", "ordered_list_close"] := by
  decide +kernel

end MdIt.C01
