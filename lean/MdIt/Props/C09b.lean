import MdIt.Proofs.LiteralLoop
import MdIt.Proofs.ListFacts
/-!
# C09 (continued) — the loop-level theorem
-/
namespace MdIt.C09

theorem newline_declines : DeclinesAtBackslash ruleNewline :=
  fun s h0 => newline_declines_at_backslash s h0

/-- **C09.inline_literal** — for every text `t` without line feed, every chain `text :: mid ++ escape :: post` whose rules between
`text` and `escape` decline at a backslash (true of `newline`, and of `linkify` with the option off), every rules2 chain that does
nothing in the absence of delimiters, and every `maxNesting ≥ 1`: the inline parse of the backslash-escaped spelling of `t`, after
`fragments_join` and `text_join`, is exactly one `text` token holding `t`. -/
theorem inline_literal (mid post : List IRule) (hmid : ∀ m ∈ mid, DeclinesAtBackslash m)
    (posts : List (IState → IState)) (hposts : ∀ f ∈ posts, ∀ s : IState, s.delims = 0 → s.delimiters = [] → s.metas = [] → f s = s)
    (mn : Int) (hmn : 1 ≤ mn) (t : List Char) (hlf : '\n' ∉ t) (hne : t ≠ []) :
    ∃ ts tk, inlineParse (ruleText :: (mid ++ ruleEscape :: post)) posts true mn (escapeAll t) = .ok ts
      ∧ joinToks [] ts = [tk] ∧ tk.type = "text" ∧ tk.content.toList = t ∧ IsLit tk := by
  have hinit : LitState t [] (IState.init (escapeAll t)) := ⟨rfl, rfl, rfl, rfl, rfl, rfl, (by intro x hx; cases hx), rfl⟩
  obtain ⟨s', hloop, hs', hdl, hmt⟩ := loop_literal mid post hmid mn hmn t hlf t.length t [] (IState.init (escapeAll t))
    ((IState.init (escapeAll t)).posMax - (IState.init (escapeAll t)).pos + 1) false (Nat.le_refl _) (by simp) hinit (by omega)
  obtain ⟨s2, htok, rfl⟩ : ∃ s2, tokenize (ruleText :: (mid ++ ruleEscape :: post)) mn (IState.init (escapeAll t)) = .ok s2
      ∧ s2 = { s' with tokens := s'.tokens ++ flushed s', pending := [] } := ⟨_, by unfold tokenize; rw [hloop], flush_eq s'⟩
  have hlit : ∀ x ∈ s'.tokens ++ flushed s', IsLit x := fun x hx => (List.mem_append.1 hx).elim (hs'.lit x) (flushed_lit s' hs'.pendingLevel x)
  have hcont : litContents (s'.tokens ++ flushed s') = t := by rw [litContents_append, litContents_flushed]; exact hs'.contents
  -- the rules2 chain before fragments_join has nothing to do
  have hfold := foldl_fixed (fun acc f => f acc) posts { s' with tokens := s'.tokens ++ flushed s', pending := [] }
    fun f hf => hposts f hf { s' with tokens := s'.tokens ++ flushed s', pending := [] } hs'.delims hdl hmt
  have hfj := fragmentsJoin_lit _ hlit
  have hne2 : fragmentsJoin 0 (s'.tokens ++ flushed s') ≠ [] := by
    intro e
    have := hfj.2
    rw [e, hcont] at this
    exact hne this.symm
  obtain ⟨tk, h1, h2, h3, h4⟩ := joinToks_lit_nil _ hfj.1 hne2
  refine ⟨_, tk, ?_, h1, h3, ?_, h2⟩
  · simp only [inlineParse, htok, hfold, if_true]
  · rw [h4, hfj.2, hcont]

/-- instance: the chain `text, newline, escape` (what the `zero` preset gives with `newline` and
    `escape` enabled), no rules2 besides fragments_join -/
theorem inline_literal_basic (mn : Int) (hmn : 1 ≤ mn) (t : List Char) (hlf : '\n' ∉ t) (hne : t ≠ []) :
    ∃ ts tk, inlineParse [ruleText, ruleNewline, ruleEscape] [] true mn (escapeAll t) = .ok ts
      ∧ joinToks [] ts = [tk] ∧ tk.type = "text" ∧ tk.content.toList = t :=
  let ⟨ts, tk, h1, h2, h3, h4, _⟩ := inline_literal [ruleNewline] [] (by
      intro m hm; simp at hm; subst hm; exact newline_declines) [] (by intro f hf; cases hf) mn hmn t hlf hne
  ⟨ts, tk, h1, h2, h3, h4⟩

end MdIt.C09
