import MdIt.Props.C01g
import MdIt.Proofs.LinkWalk
/-!
# C01 (continued) — the inline sub-parser with the `link` rule returns for every input

The link rule re-enters the engine in silent mode (`skipToken`) and in normal mode (`tokenize` on the label), so the contract of a
rule speaks about both modes, and about the state the re-entries rely on: the position memo (`CacheOK`: every memo entry points
forward — otherwise `parseLinkLabel` would spin) and the stack of delimiter scopes (`scopes`, `openAt`: a closing push pops what the
opening push pushed).  `IOK4 r`: from such a state a call of `r`, silent or not, returns what `Ret4` describes (`Fr4` is `Ret4`
without the clauses on `pos`: what the loops keep).  The lemmas with the suffix `4` say that a call returns, so they walk through
`link` on their own, beside the walk of `Proofs/LinkWalk` for calls that have returned.
-/
namespace MdIt.C01

@[simp] theorem push_cache (s : IState) (ty tag : String) (n : Int) (c m i : String) : (s.push ty tag n c m i).cache = s.cache := by
  rw [push_eq]
@[simp] theorem push_scopes (s : IState) (ty tag : String) (n : Int) (c m i : String) : (s.push ty tag n c m i).scopes = s.scopes := by
  rw [push_eq]
@[simp] theorem push_openAt (s : IState) (ty tag : String) (n : Int) (c m i : String) : (s.push ty tag n c m i).openAt = s.openAt := by
  rw [push_eq]

@[simp] theorem pushA_cache (s : IState) (ty tag : String) (n : Int) (a) (c m i : String) : (s.pushA ty tag n a c m i).cache = s.cache :=
  push_cache s ty tag n c m i
@[simp] theorem pushA_scopes (s : IState) (ty tag : String) (n : Int) (a) (c m i : String) : (s.pushA ty tag n a c m i).scopes = s.scopes :=
  push_scopes s ty tag n c m i
@[simp] theorem pushA_openAt (s : IState) (ty tag : String) (n : Int) (a) (c m i : String) : (s.pushA ty tag n a c m i).openAt = s.openAt :=
  push_openAt s ty tag n c m i

def CacheOK (s : IState) : Prop := ∀ p ∈ s.cache, p.1 < p.2

theorem CacheOK.of_eq {s s' : IState} (h : s'.cache = s.cache) (hk : CacheOK s) : CacheOK s' := fun p hp => hk p (h ▸ hp)

def Ret4 (s : IState) (m : Bool) (s' : IState) : Prop :=
  s'.src = s.src ∧ s'.level = s.level ∧ s'.posMax = s.posMax ∧ s'.scopes = s.scopes ∧ s'.openAt = s.openAt ∧ CacheOK s'
    ∧ (m = true → s.pos < s'.pos) ∧ (m = false → s'.pos = s.pos)

def IOK4 (r : IRule) : Prop :=
  ∀ s silent, ICtx s → CacheOK s → ∃ m s', r s silent = .ok (m, s') ∧ Ret4 s m s'

theorem Ret4.refl_false (s : IState) (h : CacheOK s) : Ret4 s false s := ⟨rfl, rfl, rfl, rfl, rfl, h, by simp, fun _ => rfl⟩

def Fr4 (s s' : IState) : Prop :=
  s'.src = s.src ∧ s'.level = s.level ∧ s'.posMax = s.posMax ∧ s'.scopes = s.scopes ∧ s'.openAt = s.openAt ∧ CacheOK s'

theorem Fr4.src {s s' : IState} (h : Fr4 s s') : s'.src = s.src := h.1
theorem Fr4.level {s s' : IState} (h : Fr4 s s') : s'.level = s.level := h.2.1
theorem Fr4.posMax {s s' : IState} (h : Fr4 s s') : s'.posMax = s.posMax := h.2.2.1
theorem Fr4.scopes {s s' : IState} (h : Fr4 s s') : s'.scopes = s.scopes := h.2.2.2.1
theorem Fr4.openAt {s s' : IState} (h : Fr4 s s') : s'.openAt = s.openAt := h.2.2.2.2.1
theorem Fr4.cache {s s' : IState} (h : Fr4 s s') : CacheOK s' := h.2.2.2.2.2
theorem Ret4.fr {s s' : IState} {m : Bool} (h : Ret4 s m s') : Fr4 s s' :=
  ⟨h.1, h.2.1, h.2.2.1, h.2.2.2.1, h.2.2.2.2.1, h.2.2.2.2.2.1⟩
theorem Ret4.fwd {s s' : IState} {m : Bool} (h : Ret4 s m s') : m = true → s.pos < s'.pos := h.2.2.2.2.2.2.1
theorem Ret4.miss {s s' : IState} {m : Bool} (h : Ret4 s m s') : m = false → s'.pos = s.pos := h.2.2.2.2.2.2.2

theorem Fr4.trans {a b c : IState} (h1 : Fr4 a b) (h2 : Fr4 b c) : Fr4 a c :=
  ⟨h2.src.trans h1.src, h2.level.trans h1.level, h2.posMax.trans h1.posMax, h2.scopes.trans h1.scopes, h2.openAt.trans h1.openAt, h2.cache⟩

theorem Fr4.ret_false {s s' : IState} (h : Fr4 s s') (hp : s'.pos = s.pos) : Ret4 s false s' :=
  ⟨h.src, h.level, h.posMax, h.scopes, h.openAt, h.cache, by simp, fun _ => hp⟩

theorem Leaf.iok4 {T r} (h : Leaf T r) : IOK4 r := by
  intro s silent hc hk
  obtain ⟨m, s', hr⟩ := h.total s silent hc
  obtain ⟨_, _, d⟩ := h.did hr
  exact ⟨m, s', hr, d.app.src, d.app.level, d.app.posMax, d.app.scopes, d.app.openAt, hk.of_eq d.app.cache,
    fun e => d.fwd e hc, fun e => by rw [d.miss e]⟩

theorem iok4_text : IOK4 ruleText := leaf_text.iok4
theorem iok4_newline : IOK4 ruleNewline := leaf_newline.iok4
theorem iok4_escape : IOK4 ruleEscape := leaf_escape.iok4
theorem iok4_backticks : IOK4 ruleBackticks := leaf_backticks.iok4
theorem iok4_entity (ext : IExt) : IOK4 (ruleEntity ext) := (leaf_entity ext).iok4
theorem iok4_autolink (ext : IExt) : IOK4 (ruleAutolink ext) := (leaf_autolink ext).iok4
theorem iok4_htmlInline (ext : IExt) : IOK4 (ruleHtmlInline ext) := (leaf_htmlInline ext).iok4
theorem iok4_emphasis (cls : QCls) : IOK4 (ruleEmphasis cls) := (leaf_emphasis cls).iok4
theorem iok4_strike (cls : QCls) : IOK4 (ruleStrike cls) := (leaf_strike cls).iok4

theorem ictx_of_ret {s s' : IState} (hc : ICtx s) (h : Ret4 s false s') : ICtx s' := by
  obtain ⟨a, _, c, _, _, _, _, e⟩ := h
  unfold ICtx at *; rw [e rfl, c, a]; exact hc

/-- the frame handed to `runChain_total` is `CacheOK a → Fr4 a b`, since `Fr4 s s` needs `CacheOK s` -/
theorem runChain4 (rules : List IRule) (hok : ∀ r ∈ rules, IOK4 r) : ∀ (s : IState), ICtx s → CacheOK s →
    ∃ m s', runChain rules s = .ok (m, s') ∧ Ret4 s m s' := fun s hc hk =>
  let ⟨m, s', h, hf, p, q⟩ := runChain_total (fun s => ICtx s ∧ CacheOK s) (fun a b => CacheOK a → Fr4 a b)
    (fun _ hk => ⟨rfl, rfl, rfl, rfl, rfl, hk⟩) (fun _ _ _ h1 h2 hk => (h1 hk).trans (h2 (h1 hk).cache)) rules
    (fun r hr s ⟨hc, hk⟩ =>
      let ⟨m, s', h, hret⟩ := hok r hr s false hc hk
      ⟨m, s', h, fun _ => hret.fr, hret.fwd, fun e => ⟨hret.miss e, ictx_of_ret hc (e ▸ hret), hret.fr.cache⟩⟩)
    s ⟨hc, hk⟩
  let ⟨a, b, c, d, e, f⟩ := hf hk
  ⟨m, s', h, a, b, c, d, e, f, p, q⟩

theorem loop4 (rules : List IRule) (hok : ∀ r ∈ rules, IOK4 r) (mn : Int) :
    ∀ (fuel : Nat) (ok : Bool) (s : IState), s.posMax ≤ s.src.length → s.posMax - s.pos < fuel → CacheOK s →
      (s.level ≥ mn → ok = false) →
      ∃ s', tokenizeLoop rules mn s.posMax fuel ok s = .ok s' ∧ Fr4 s s' := by
  intro fuel ok s hend hf hk hstale
  refine tokenizeLoop_total rules mn s.posMax (Fr4 s) (fun t h => by rw [h.src]; exact hend) (fun t c h => h) (fun t h hlt => ?_)
    fuel ok s ⟨rfl, rfl, rfl, rfl, rfl, hk⟩ hf hstale
  obtain ⟨m, t', hr, hret⟩ := runChain4 rules hok t ⟨by rw [h.posMax]; exact hlt, by rw [h.posMax, h.src]; exact hend⟩ h.cache
  exact ⟨m, t', hr, h.trans hret.fr, hret.fr.level, hret.fwd, hret.miss⟩

theorem parse_total_of_ok4 (rules : List IRule) (hok : ∀ r ∈ rules, IOK4 r) (post : List (IState → IState)) (fragJoin : Bool) (mn : Int)
    (src : List Char) : ∃ ts, inlineParse rules post fragJoin mn src = .ok ts := by
  unfold inlineParse tokenize
  obtain ⟨s', h, _⟩ := loop4 rules hok mn ((IState.init src).posMax - (IState.init src).pos + 1) false (IState.init src) (Nat.le_refl _) (by omega)
    (by intro p hp; simp [IState.init] at hp) (fun _ => rfl)
  rw [h]
  exact ⟨_, rfl⟩

theorem iok4_down {r : IRule} (h : IOK4 r) : IOK4 (silentDown r) := by
  intro s _ hc hk
  obtain ⟨m, s1, hr, a, b, c, d, e, f, p, g⟩ := h { s with level := s.level + 1 } true hc hk
  refine ⟨m, { s1 with level := s1.level - 1 }, by rw [silentDown, hr], a, ?_, c, d, e, f, p, g⟩
  show s1.level - 1 = s.level
  rw [b]
  show s.level + 1 - 1 = s.level
  omega

theorem runSilent4 (rules : List IRule) (hok : ∀ r ∈ rules, IOK4 r) : ∀ (s : IState), ICtx s → CacheOK s →
    ∃ m s', runSilent rules s = .ok (m, s') ∧ Ret4 s m s' := fun s hc hk =>
  runSilent_eq rules s ▸ runChain4 _ (forall_mem_down fun r hr => iok4_down (hok r hr)) s hc hk

theorem skipToken4 (chain : List IRule) (hok : ∀ r ∈ chain, IOK4 r) (mn : Int) (s : IState) (hc : ICtx s) (hk : CacheOK s) :
    ∃ s', skipToken chain mn s = .ok s' ∧ Fr4 s s' ∧ s.pos < s'.pos := by
  unfold skipToken
  cases hg : cacheGet s.cache s.pos with
  | some p =>
    simp only
    refine ⟨_, rfl, ⟨rfl, rfl, rfl, rfl, rfl, hk⟩, ?_⟩
    -- the memo entry found is `(s.pos, p)`
    obtain ⟨q, hf, rfl⟩ := Option.map_eq_some_iff.1 hg
    have := hk q (List.mem_of_find?_eq_some hf)
    have hq1 : q.1 = s.pos := by simpa using List.find?_some hf
    show s.pos < q.2
    omega
  | none =>
    simp only
    by_cases hlv : s.level < mn
    · simp only [hlv, if_true]
      obtain ⟨m, s1, hr, a, b, c, d, e, f, p, g⟩ := runSilent4 chain hok s hc hk
      rw [hr]
      simp only
      cases m with
      | true =>
        simp only [if_true]
        exact ⟨_, rfl, ⟨a, b, c, d, e, List.forall_mem_cons.2 ⟨p rfl, f⟩⟩, p rfl⟩
      | false =>
        simp only [Bool.false_eq_true, if_false]
        have hp : s.pos < s1.pos + 1 := by rw [g rfl]; omega
        exact ⟨_, rfl, ⟨a, b, c, d, e, List.forall_mem_cons.2 ⟨hp, f⟩⟩, hp⟩
    · simp only [hlv, if_false, Bool.false_eq_true]
      have hp : s.pos < s.posMax + 1 := by have := hc.1; omega
      exact ⟨_, rfl, ⟨rfl, rfl, rfl, rfl, rfl, List.forall_mem_cons.2 ⟨hp, hk⟩⟩, hp⟩

theorem labelLoop4 (chain : List IRule) (hok : ∀ r ∈ chain, IOK4 r) (mn : Int) (dn : Bool) :
    ∀ (fuel level : Nat) (s : IState), s.posMax ≤ s.src.length → s.posMax - s.pos < fuel → CacheOK s →
      ∃ r s', labelLoop chain mn dn fuel level s = .ok (r, s') ∧ Fr4 s s' ∧ (0 ≤ r → s.pos ≤ r.toNat ∧ r.toNat < s.posMax) := by
  intro fuel level s hend hf hk
  obtain ⟨r, s', h, ⟨hfr, hle⟩, hr⟩ := labelLoop_ok (P := fun t => Fr4 s t ∧ s.pos ≤ t.pos) (dn := dn)
    (fun t ⟨hfr, hle⟩ hlt => by
      have hend' : t.posMax ≤ t.src.length := by rw [hfr.src, hfr.posMax]; exact hend
      obtain ⟨t', h1, hfr', hp⟩ := skipToken4 chain hok mn t ⟨hlt, hend'⟩ hfr.cache
      exact ⟨by omega, t', h1, hp, hfr'.posMax, hfr.trans hfr', by omega⟩)
    fuel level s ⟨⟨rfl, rfl, rfl, rfl, rfl, hk⟩, Nat.le_refl _⟩ hf
  refine ⟨r, s', h, hfr, fun h0 => ?_⟩
  have := hfr.posMax
  omega

theorem parseLinkLabel4 (chain : List IRule) (hok : ∀ r ∈ chain, IOK4 r) (mn : Int) (s : IState) (start : Nat) (dn : Bool)
    (hend : s.posMax ≤ s.src.length) (hk : CacheOK s) :
    ∃ r s', parseLinkLabel chain mn s start dn = .ok (r, s') ∧ Fr4 s s' ∧ s'.pos = s.pos ∧ (0 ≤ r → start + 1 ≤ r.toNat ∧ r.toNat < s.posMax) := by
  unfold parseLinkLabel
  obtain ⟨r, s1, h1, hfr, hr⟩ := labelLoop4 chain hok mn dn (s.posMax - start + 1) 1 { s with pos := start + 1 } hend
    (by show s.posMax - (start + 1) < s.posMax - start + 1; omega) hk
  rw [h1]
  exact ⟨r, _, rfl, hfr, rfl, hr⟩

theorem skipBlanksNl_ge (src : List Char) (max : Nat) : ∀ (fuel pos : Nat), pos ≤ skipBlanksNl src max fuel pos := by
  intro fuel pos
  fun_induction skipBlanksNl src max fuel pos with
  | case1 | case3 | case4 | case5 => exact Nat.le_refl _
  | case2 _ _ _ _ _ ih => omega

theorem destAngle_ge (src : List Char) (max : Nat) : ∀ (fuel pos e : Nat), destAngle src max fuel pos = some e → pos ≤ e := by
  intro fuel pos e h
  fun_induction destAngle src max fuel pos with
  | case5 => cases h; exact Nat.le_refl _  -- the closing `>`
  | case1 | case3 | case4 | case8 => cases h  -- `none`: out of fuel; a line feed; a `<`; `max` reached
  | case2 | case6 | case7 => rename_i ih; have := ih h; omega  -- the scan goes on, one character further or (after `\`) two

theorem destBare_ge (src : List Char) (max : Nat) : ∀ (fuel pos level e l : Nat), destBare src max fuel pos level = some (e, l) → pos ≤ e := by
  intro fuel pos level e l h
  fun_induction destBare src max fuel pos level with
  -- the scan ends at `pos`: out of fuel; no character; a space; a control character; `\` before a space; `)` at level 0; `max` reached
  | case1 | case2 | case3 | case4 | case5 | case9 | case12 => cases h; exact Nat.le_refl _
  | case7 => cases h  -- `none`: more than 32 open parentheses
  | case6 | case8 | case10 | case11 => rename_i ih; have := ih h; omega  -- the scan goes on: after `\x`, `(`, an inner `)`, any other character

theorem titleScan_ge (src : List Char) (max : Nat) (marker : Char) : ∀ (fuel pos e : Nat), titleScan src max marker fuel pos = some e → pos ≤ e := by
  intro fuel pos e h
  fun_induction titleScan src max marker fuel pos with
  | case3 => cases h; exact Nat.le_refl _  -- the closing marker
  | case1 | case4 | case7 => cases h  -- `none`: out of fuel; a `(` in a `(…)` title; `max` reached
  | case2 | case5 | case6 => rename_i ih; have := ih h; omega  -- the scan goes on, one character further or (after `\`) two

theorem parseLinkDestination_ge (ext : IExt) (src : List Char) (pos max dpos : Nat) (str : List Char)
    (h : parseLinkDestination ext src pos max = some (dpos, str)) : pos ≤ dpos := by
  unfold parseLinkDestination at h
  split at h
  · split at h
    · rename_i e he
      simp only [Option.some.injEq, Prod.mk.injEq] at h
      have := destAngle_ge _ _ _ _ _ he; omega
    · cases h
  · split at h
    · cases h
    · rename_i e level he
      split at h
      · cases h
      · split at h
        · cases h
        · simp only [Option.some.injEq, Prod.mk.injEq] at h
          have := destBare_ge _ _ _ _ _ _ _ he; omega

theorem parseLinkTitle_ge (ext : IExt) (src : List Char) (pos max tpos : Nat) (str : List Char)
    (h : parseLinkTitle ext src pos max = some (tpos, str)) : pos ≤ tpos := by
  unfold parseLinkTitle at h
  split at h
  · cases h
  · split at h
    · cases h
    · split at h
      · cases h
      · simp only at h
        cases he : titleScan src max (if (_ == '(') = true then ')' else _) (max - pos + 1) (pos + 1) with
        | none => rw [he] at h; cases h
        | some e =>
          rw [he] at h
          simp only [Option.some.injEq, Prod.mk.injEq] at h
          have := titleScan_ge _ _ _ _ _ _ he; omega

/-! the scan of `( dest "title" )` as `image` does it; `link`'s is a case of it (`linkDestTitle_eq`) -/

theorem imageDest_ge (ext : IExt) (s : IState) (p1 : Nat) : p1 ≤ (imageDest ext s p1).1 := by
  unfold imageDest
  cases hd : parseLinkDestination ext s.src p1 s.posMax with
  | none => exact Nat.le_refl _
  | some q =>
    obtain ⟨dpos, dstr⟩ := q
    have hdge := parseLinkDestination_ge _ _ _ _ _ _ hd
    show p1 ≤ (if validateLink (ext.normLink dstr) = true then (dpos, ext.normLink dstr) else (p1, [])).1
    split
    · exact hdge
    · exact Nat.le_refl _

theorem imageDestTitle_ge (ext : IExt) (s : IState) (maximum p1 : Nat) : p1 ≤ (imageDestTitle ext s maximum p1).1 := by
  unfold imageDestTitle
  simp only
  have hdh := imageDest_ge ext s p1
  generalize imageDest ext s p1 = dh at hdh
  have h3 := skipBlanksNl_ge s.src maximum (maximum - dh.1) dh.1
  cases ht : parseLinkTitle ext s.src (skipBlanksNl s.src maximum (maximum - dh.1) dh.1) s.posMax with
  | none => show _ ≤ (skipBlanksNl s.src maximum (maximum - dh.1) dh.1, dh.2, ([] : List Char)).1; show _ ≤ skipBlanksNl s.src maximum (maximum - dh.1) dh.1; omega
  | some q2 =>
    obtain ⟨tpos, tstr⟩ := q2
    have htge := parseLinkTitle_ge _ _ _ _ _ _ ht
    have h4 := skipBlanksNl_ge s.src maximum (maximum - tpos) tpos
    show _ ≤ (if _ then _ else _ : Nat × List Char × List Char).1
    split
    · show _ ≤ skipBlanksNl s.src maximum (maximum - tpos) tpos; omega
    · show _ ≤ skipBlanksNl s.src maximum (maximum - dh.1) dh.1; omega

theorem linkDestTitle_ge (ext : IExt) (s : IState) (maximum p1 : Nat) : p1 ≤ (linkDestTitle ext s maximum p1).1 := by
  rw [linkDestTitle_eq]
  split
  · exact imageDestTitle_ge ext s maximum p1
  · exact Nat.le_refl _

theorem linkInline_ge (ext : IExt) (s : IState) (labelEnd maximum pos1 : Nat) (h t : List Char) (pr : Bool)
    (hi : linkInline ext s labelEnd maximum = some (pos1, h, t, pr)) : labelEnd + 1 ≤ pos1 := by
  unfold linkInline at hi
  simp only at hi
  split at hi
  · have hp1 := skipBlanksNl_ge s.src maximum (maximum - (labelEnd + 1)) (labelEnd + 1 + 1)
    split at hi
    · cases hi
    · simp only [Option.some.injEq, Prod.mk.injEq] at hi
      have := linkDestTitle_ge ext s maximum (skipBlanksNl s.src maximum (maximum - (labelEnd + 1)) (labelEnd + 1 + 1))
      omega
  · simp only [Option.some.injEq, Prod.mk.injEq] at hi
    omega

theorem linkSecondLabel4 (mn : Int) (inner : List IRule) (hok : ∀ r ∈ inner, IOK4 r) (s : IState) (labelEnd maximum pos1 : Nat)
    (hend : s.posMax ≤ s.src.length) (hk : CacheOK s) (hp1 : labelEnd + 1 ≤ pos1) :
    ∃ pos2 label s2, linkSecondLabel mn inner s labelEnd maximum pos1 = .ok (pos2, label, s2) ∧ Fr4 s s2 ∧ s2.pos = s.pos ∧ labelEnd + 1 ≤ pos2 := by
  unfold linkSecondLabel
  split
  · obtain ⟨r, s2, h2, hfr, hpos, hr⟩ := parseLinkLabel4 inner hok mn s pos1 false hend hk
    rw [h2]
    simp only
    split
    · rename_i hge
      have := hr hge
      exact ⟨_, _, s2, rfl, hfr, hpos, by omega⟩
    · exact ⟨_, _, s2, rfl, hfr, hpos, Nat.le_refl _⟩
  · exact ⟨_, _, s, rfl, ⟨rfl, rfl, rfl, rfl, rfl, hk⟩, rfl, Nat.le_refl _⟩

theorem linkRef4 (lx : LExt) (mn : Int) (inner : List IRule) (hok : ∀ r ∈ inner, IOK4 r) (s : IState) (labelStart labelEnd maximum pos1 : Nat)
    (hend : s.posMax ≤ s.src.length) (hk : CacheOK s) (hp1 : labelEnd + 1 ≤ pos1) :
    ∃ s2 o, linkRef lx mn inner s labelStart labelEnd maximum pos1 = .ok (s2, o) ∧ Fr4 s s2 ∧ s2.pos = s.pos
      ∧ (∀ pos h t l, o = some (pos, h, t, l) → labelEnd + 1 ≤ pos) := by
  unfold linkRef
  split
  · exact ⟨s, none, rfl, ⟨rfl, rfl, rfl, rfl, rfl, hk⟩, rfl, fun _ _ _ _ h => by cases h⟩
  · obtain ⟨pos2, label, s2, hl, hfr, hpos, hge⟩ := linkSecondLabel4 mn inner hok s labelEnd maximum pos1 hend hk hp1
    rw [hl]
    simp only
    split
    · exact ⟨s2, none, rfl, hfr, hpos, fun _ _ _ _ h => by cases h⟩
    · refine ⟨s2, _, rfl, hfr, hpos, ?_⟩
      intro pos h t l he
      simp only [Option.some.injEq, Prod.mk.injEq] at he
      omega

theorem pushPending_fr (s : IState) (hk : CacheOK s) : Fr4 s s.pushPending := ⟨rfl, rfl, rfl, rfl, rfl, hk⟩

theorem pushOpen_fields (s : IState) (ty tag : String) (a : List (String × AttrVal)) (md : List (String × String)) :
    (s.pushOpen ty tag a md).src = s.src ∧ (s.pushOpen ty tag a md).posMax = s.posMax ∧ (s.pushOpen ty tag a md).pos = s.pos
      ∧ (s.pushOpen ty tag a md).level = s.level + 1 ∧ (s.pushOpen ty tag a md).cache = s.cache
      ∧ (∃ d i, (s.pushOpen ty tag a md).scopes = d :: s.scopes ∧ (s.pushOpen ty tag a md).openAt = i :: s.openAt) := by
  rw [pushOpen_eq]; exact ⟨rfl, rfl, rfl, rfl, rfl, _, _, rfl, rfl⟩

theorem linkOpened_fields (lx : LExt) (s : IState) (ls le : Nat) (href title label : List Char) :
    (linkOpened lx s ls le href title label).src = s.src ∧ (linkOpened lx s ls le href title label).posMax = le
      ∧ (linkOpened lx s ls le href title label).pos = ls ∧ (linkOpened lx s ls le href title label).level = s.level + 1
      ∧ (linkOpened lx s ls le href title label).cache = s.cache
      ∧ (∃ d i, (linkOpened lx s ls le href title label).scopes = d :: s.scopes ∧ (linkOpened lx s ls le href title label).openAt = i :: s.openAt) :=
  pushOpen_fields { s with pos := ls, posMax := le } "link_open" "a" (linkAttrs href title) (labelMeta lx label)

theorem innerTokenize4 (rules : List IRule) (hok : ∀ r ∈ rules, IOK4 r) (mn : Int) (s : IState) (hend : s.posMax ≤ s.src.length)
    (hk : CacheOK s) : ∃ s', innerTokenize rules mn s = .ok s' ∧ Fr4 s s' := by
  unfold innerTokenize
  obtain ⟨s2, h2, hfr⟩ := loop4 rules hok mn (s.posMax - s.pos + 1) false s hend (by omega) hk (fun _ => rfl)
  rw [h2]
  refine ⟨_, rfl, hfr.trans ?_⟩
  split
  · exact ⟨rfl, rfl, rfl, rfl, rfl, hfr.cache⟩
  · exact pushPending_fr s2 hfr.cache

theorem pushClose_fields (s : IState) (ty tag : String) (d : List Delim) (sc : List (List Delim)) (i : Nat) (oa : List Nat)
    (hs : s.scopes = d :: sc) (ho : s.openAt = i :: oa) :
    ∃ s3, s.pushClose ty tag = .ok s3 ∧ s3.src = s.src ∧ s3.level = s.level - 1 ∧ s3.scopes = sc ∧ s3.openAt = oa ∧ s3.cache = s.cache := by
  rw [pushClose_eq, hs, ho]; exact ⟨_, rfl, rfl, rfl, rfl, rfl, rfl⟩

theorem linkEmit4 (lx : LExt) (mn : Int) (inner : List IRule) (hok : ∀ r ∈ inner, IOK4 r) (s : IState) (labelStart labelEnd : Nat)
    (href title label : List Char) (hle : labelEnd ≤ s.src.length) (hk : CacheOK s) :
    ∃ s3, linkEmit lx mn inner s labelStart labelEnd href title label = .ok s3 ∧ s3.src = s.src ∧ s3.level = s.level
      ∧ s3.scopes = s.scopes ∧ s3.openAt = s.openAt ∧ CacheOK s3 := by
  rw [linkEmit_eq]
  obtain ⟨o1, o2, _, o4, o5, d, i, o6, o7⟩ := linkOpened_fields lx s labelStart labelEnd href title label
  -- the nested run keeps level and scopes; the closing push undoes the opening one
  obtain ⟨s2, h2, f1, f2, _, f4, f5, f6⟩ := innerTokenize4 inner hok mn (linkOpened lx s labelStart labelEnd href title label)
    (by rw [o1, o2]; exact hle) (hk.of_eq o5)
  rw [h2]
  obtain ⟨s3, h3, g1, g2, g3, g4, g5⟩ := pushClose_fields { s2 with linkLevel := s2.linkLevel - 1 } "link_close" "a" d s.scopes i s.openAt
    (f4.trans o6) (f5.trans o7)
  refine ⟨s3, h3, g1.trans (f1.trans o1), ?_, g3, g4, f6.of_eq g5⟩
  rw [g2]; show s2.level - 1 = s.level; rw [f2, o4]; omega

theorem linkFind4 (ext : IExt) (lx : LExt) (mn : Int) (inner : List IRule) (hok : ∀ r ∈ inner, IOK4 r) (s : IState) (hc : ICtx s)
    (hk : CacheOK s) :
    ∃ s2 o, linkFind ext lx mn inner s = .ok (s2, o) ∧ Fr4 s s2 ∧ s2.pos = s.pos ∧ ∀ f, o = some f → f.labelEnd < s.posMax ∧ s.pos < f.pos := by
  unfold linkFind
  obtain ⟨r, s1, h1, hfr1, hpos1, hr1⟩ := parseLinkLabel4 inner hok mn s s.pos true hc.2 hk
  rw [h1]
  dsimp only
  by_cases hneg : r < 0
  · rw [if_pos hneg]; exact ⟨s1, none, rfl, hfr1, hpos1, nofun⟩
  · rw [if_neg hneg]
    obtain ⟨hlo, hhi⟩ := hr1 (by omega)
    cases hi : linkInline ext s1 r.toNat s.posMax with
    | none => exact ⟨s1, none, rfl, hfr1, hpos1, nofun⟩
    | some q =>
      obtain ⟨pos1, href1, title1, pr⟩ := q
      have hp1 := linkInline_ge _ _ _ _ _ _ _ _ hi
      cases pr with
      | false => exact ⟨s1, _, rfl, hfr1, hpos1, fun f hf => by cases hf; exact ⟨hhi, by show s.pos < pos1; omega⟩⟩
      | true =>
        dsimp only
        obtain ⟨s2, o, h2, hfr2, hpos2, hge⟩ := linkRef4 lx mn inner hok s1 (s.pos + 1) r.toNat s.posMax pos1
          (by rw [hfr1.src, hfr1.posMax]; exact hc.2) hfr1.cache hp1
        rw [h2]
        cases o with
        | none => exact ⟨_, none, rfl, hfr1.trans hfr2, rfl, nofun⟩
        | some q2 =>
          obtain ⟨pos, href, title, label⟩ := q2
          have := hge pos href title label rfl
          exact ⟨s2, _, rfl, hfr1.trans hfr2, hpos2.trans hpos1, fun f hf => by cases hf; exact ⟨hhi, by show s.pos < pos; omega⟩⟩

theorem bracket_ok4 {head : IState → Except PyErr Bool} {find : IState → Except PyErr (IState × Option Found)}
    {emit : IState → IState → Found → Except PyErr IState} (hhead : ∀ s, ICtx s → ∃ b, head s = .ok b)
    (hfind : ∀ s, ICtx s → CacheOK s →
      ∃ s2 o, find s = .ok (s2, o) ∧ Fr4 s s2 ∧ s2.pos = s.pos ∧ ∀ f, o = some f → f.labelEnd < s.posMax ∧ s.pos < f.pos)
    (hemit : ∀ s s2 f, f.labelEnd ≤ s2.src.length → CacheOK s2 → ∃ s3, emit s s2 f = .ok s3 ∧ s3.src = s2.src ∧ s3.level = s2.level
      ∧ s3.scopes = s2.scopes ∧ s3.openAt = s2.openAt ∧ CacheOK s3) : IOK4 (bracketRule head find emit) := by
  intro s silent hc hk
  unfold bracketRule
  obtain ⟨b, hb⟩ := hhead s hc
  rw [hb]
  cases b with
  | false => exact ⟨false, s, rfl, Ret4.refl_false s hk⟩
  | true =>
    obtain ⟨s2, o, h2, hfr, hpos, hf⟩ := hfind s hc hk
    rw [h2]
    cases o with
    | none => exact ⟨false, s2, rfl, hfr.ret_false hpos⟩
    | some f =>
      obtain ⟨hle, hlt⟩ := hf f rfl
      cases silent with
      | true => exact ⟨true, _, rfl, hfr.src, hfr.level, rfl, hfr.scopes, hfr.openAt, hfr.cache, fun _ => hlt, nofun⟩
      | false =>
        obtain ⟨s3, h3, e1, e2, e3, e4, e5⟩ := hemit s s2 f (by rw [hfr.src]; have := hc.2; omega) hfr.cache
        dsimp only [Bool.false_eq_true, if_false]
        rw [h3]
        exact ⟨true, _, rfl, e1.trans hfr.src, e2.trans hfr.level, rfl, e3.trans hfr.scopes, e4.trans hfr.openAt, e5, fun _ => hlt, nofun⟩

theorem iok4_link (ext : IExt) (lx : LExt) (mn : Int) (inner : List IRule) (hok : ∀ r ∈ inner, IOK4 r) : IOK4 (ruleLink ext lx mn inner) := by
  rw [ruleLink_eq]
  refine bracket_ok4 (fun s hc => ?_) (linkFind4 ext lx mn inner hok) (fun s s2 f => linkEmit4 lx mn inner hok s2 _ _ _ _ _)
  unfold linkHead
  rw [List.getElem?_eq_getElem (ictx_lt hc)]
  exact ⟨_, rfl⟩

theorem linkChain_ok4 (cls : QCls) (ext : IExt) (lx : LExt) (newline escape backticks strike emphasis link autolink htmlInline entity : Bool) (mn : Int) :
    ∀ d : Nat, ∀ r ∈ linkChain cls ext lx newline escape backticks strike emphasis link autolink htmlInline entity mn d, IOK4 r :=
  linkChain_forall iok4_text (fun _ => iok4_newline) (fun _ => iok4_escape) (fun _ => iok4_backticks) (fun _ => iok4_strike cls)
    (fun _ => iok4_emphasis cls) (fun _ _ => iok4_link ext lx mn _)
    (fun _ => iok4_autolink ext) (fun _ => iok4_htmlInline ext) (fun _ => iok4_entity ext)

/-- **C01.link_total** — the inline sub-parser with the `link` rule (ten of the twelve inline rules: `skipToken` with its position memo,
label / destination / title parsing, references, nested tokenization of the label, delimiter scopes): for every rule subset, budget,
source, `maxNesting`, classification, external functions and reference table the parse — tokenize loop and the second chain over all
scopes — returns a token list: no exception, and the two loops without a progress test in the code (`tokenize`, `parseLinkLabel`)
always move forward. -/
theorem link_total (cls : QCls) (ext : IExt) (lx : LExt) (newline escape backticks strike emphasis link autolink htmlInline entity fragJoin : Bool)
    (mn : Int) (d : Nat) (src : List Char) :
    ∃ ts, inlineParse (linkChain cls ext lx newline escape backticks strike emphasis link autolink htmlInline entity mn d)
      (linkPost strike emphasis) fragJoin mn src = .ok ts :=
  parse_total_of_ok4 _ (linkChain_ok4 cls ext lx newline escape backticks strike emphasis link autolink htmlInline entity mn d) _ _ _ _

/-! non-vacuity: inline links with titles, a rejected destination, a reference link, emphasis across and inside a link, nested brackets -/
def lx0 : LExt := { hasRefs := true, normRef := fun l => l.map Char.toUpper, storeLabels := false,
                    refs := fun l => if l = "R".toList then some ("/ref".toList, "T".toList) else none }

example : itypesOf (inlineParse (linkChain ⟨fun c => (33 ≤ c && c ≤ 47) || (58 ≤ c && c ≤ 64) || (91 ≤ c && c ≤ 96) || (123 ≤ c && c ≤ 126),
        fun c => c == 32 || c == 9 || c == 10⟩ { entity := fun _ => none, reformat := id, normText := id, html := false } lx0
        true true true false true true true false false 20 22) (linkPost false true) true 20
      "*a [b *c*](/u \"t\") [x](javascript:y) [z][r] [[n]](m)* [q".toList)
    = some ["em_open", "text", "link_open", "text", "em_open", "text", "em_close", "link_close", "text", "link_open", "text", "link_close",
            "text", "link_open", "text", "link_close", "em_close", "text"] := by decide +kernel

end MdIt.C01
