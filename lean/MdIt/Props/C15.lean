import MdIt.Token
import MdIt.Tree
import MdIt.Proofs.Dict
/-!
# C15 — tokens survive serialisation and tree conversion; rendering is repeatable

Here the dictionary round trip and the syntax tree; rendering is in `C15b`, `C15c`.
-/
namespace MdIt.C15

theorem dictOfPairs_nodup {β} (acc l : List (String × β)) (h : ((acc ++ l).map (·.1)).Nodup) :
    dictOfPairs acc l = acc ++ l := by
  induction l generalizing acc with
  | nil => simp [dictOfPairs]
  | cons kv rest ih =>
    have hk : kv.1 ∉ acc.map (·.1) := fun hm => by
      rw [List.map_append, List.nodup_append] at h
      exact h.2.2 _ hm _ List.mem_cons_self rfl
    rw [dictOfPairs_cons, dictSet_of_not_mem hk, ih _ (by simpa using h), List.append_assoc, List.singleton_append]

theorem convertAttrs_repr (up : Bool) (attrs : List (String × AttrVal)) (h : (attrs.map (·.1)).Nodup) :
    convertAttrs (if up then (if attrs.isEmpty then .none else .pairs attrs) else .dict attrs) = attrs := by
  cases up with
  | false => rfl
  | true =>
    cases attrs with
    | nil => rfl
    | cons a as =>
      simp only [List.isEmpty_cons, if_true, Bool.false_eq_true, if_false, convertAttrs]
      simpa using dictOfPairs_nodup [] (a :: as) (by simpa using h)

mutual
  /-- **C15.dict_roundtrip** (dict) — converting a token to a dictionary, in either attribute format
  (`as_upstream` on/off) and with or without converting children (`children=` on/off), and back
  yields an equal token; for every token whose `attrs` and `meta` have distinct keys at every depth (`Tok.WF`: they are
  Python dicts) — children `None`, `[]` or nested to any depth; empty attrs; int attrs; meta. -/
  theorem dict_roundtrip (up ch : Bool) : (t : Tok) → t.WF → fromDict (asDict up ch t) = .ok t
    | .mk type tag nesting attrs map level children content markup info metaD block hidden, h => by
      simp only [Tok.WF] at h
      obtain ⟨ha, _, hc⟩ := h
      have := dictOpt_roundtrip up ch children hc
      simp only [asDict, fromDict, this, convertAttrs_repr up attrs ha]
  theorem dictOpt_roundtrip (up ch : Bool) : (o : Option (List Tok)) → Tok.WFOpt o →
      fromDictOpt (asDictOpt up ch o) = .ok o
    | none, _ => rfl
    | some cs, h => by
      simp only [Tok.WFOpt] at h
      have := dictList_roundtrip up ch cs h
      simp only [asDictOpt, fromDictOpt, this]
  theorem dictList_roundtrip (up ch : Bool) : (ts : List Tok) → Tok.WFList ts →
      fromDictList (asDictList up ch ts) = .ok ts
    | [], _ => rfl
    | t :: ts, h => by
      simp only [Tok.WFList] at h
      have h2 := dictList_roundtrip up ch ts h.2
      cases ch with
      | false => simp only [asDictList, Bool.false_eq_true, if_false, fromDictList, h2]
      | true =>
        have h1 := dict_roundtrip up true t h.1
        cases t with
        | mk a b c d e f g hh i j k l m =>
          simp only [asDictList, if_true]
          simp only [asDict] at h1 ⊢
          simp only [fromDictList, h1, h2]
end

/-- **C15.tree_roundtrip** (tree) — whenever a syntax tree can be built from a token sequence, flattening it returns
the identical sequence (no balance hypothesis needed: it is a property of every successful build). -/
theorem tree_roundtrip (ts : List Tok) (f : List Node) (h : buildTree ts = .ok f) :
    Node.toTokensList f = ts := by
  fun_induction buildTree ts generalizing f with
  | case1 => simp at h; subst h; rfl
  | case2 t rest h0 r hr ih =>
    simp only [Except.ok.injEq] at h; subst h
    simp [Node.toTokensList, Node.toTokens, ih r hr]
  | case3 t rest h0 e he ih => simp at h
  | case4 t rest h0 h1 => simp at h
  | case5 t rest h0 h1 htn => simp at h
  | case6 t rest h0 h1 innerC rest' htn e hk ih1 => simp at h
  | case7 t rest h0 h1 innerC rest' htn kids hk e hr ih1 ih2 => simp at h
  | case8 t rest h0 h1 innerC rest' htn kids hk r hr c hc ih1 ih2 =>
    simp only [Except.ok.injEq] at h; subst h
    have hs := takeNested_spec rest 1 [] innerC rest' htn
    simp only [List.reverse_nil, List.nil_append] at hs
    have hne : innerC ≠ [] := by intro e; rw [e] at hc; simp at hc
    have hlast : innerC.dropLast ++ [c] = innerC := by
      have h1 := List.dropLast_concat_getLast hne
      have h2 : innerC.getLast hne = c := by
        have := List.getLast?_eq_some_getLast hne
        rw [hc] at this; exact (Option.some.inj this).symm
      rw [h2] at h1; exact h1
    simp only [Node.toTokensList, Node.toTokens, ih1 kids hk, ih2 r hr, List.cons_append,
      List.append_assoc, List.cons.injEq, true_and]
    have : innerC.dropLast ++ c :: ([] ++ rest') = (innerC.dropLast ++ [c]) ++ rest' := by simp
    rw [this, hlast, hs.1]
  | case9 t rest h0 h1 innerC rest' htn kids hk r hr hc ih1 ih2 => simp at h

mutual
  theorem walk_sublist : (n : Node) → (n.walk.map Node.tok).Sublist n.toTokens
    | .leaf t => by simp [Node.walk, Node.toTokens, Node.tok]
    | .nest o c kids => by
      simp only [Node.walk, Node.toTokens, List.map_cons, Node.tok]
      exact List.Sublist.cons_cons _ ((walkList_sublist kids).trans (List.sublist_append_left _ _))
  /-- **C15.walkList_sublist** (walk) — the depth-first walk follows stream order: the tokens of the walked nodes (a
  leaf's token, a container's opening token) form a sub-sequence of the stream, in order. -/
  theorem walkList_sublist : (ns : List Node) →
      ((Node.walkList ns).map Node.tok).Sublist (Node.toTokensList ns)
    | [] => by simp [Node.walkList, Node.toTokensList]
    | n :: ns => by
      simp only [Node.walkList, Node.toTokensList, List.map_append]
      exact List.Sublist.append (walk_sublist n) (walkList_sublist ns)
end

end MdIt.C15
