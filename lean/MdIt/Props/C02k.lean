import MdIt.Props.C10n
import MdIt.Props.C02h
/-!
# C02 (continued) — the block stream with the `table` rule in the chain is well formed

The tokens of a table (`tableToks`) are levelled from the entry level, balanced, and back at it: cells, rows, header, body, table are
each an opening token, a well-formed segment one level up and the closing token.  K5 for the table rule is read off `table_leaf`.
`appW_body` says the same of what the body loop alone appends: it opens `tbody` on its first row and leaves it open, so `AppW` is
stated relative to the state *after* that push.

Tables are rectangular.  `tableHead_columns`: when the table rule matches, the header has at least one cell and exactly as many cells as
the delimiter row has columns; `pushCells_count`: every row — header or body, whatever number of cells its source line holds —
contributes exactly `3 × columnCount` tokens (`open inline close` per column: missing cells are empty, surplus ones dropped).
-/
namespace MdIt.C02
open MdIt.C01 MdIt.C10

def AppW (s s' : BState) : Prop := ∃ seg, s'.tokens = s.tokens ++ seg ∧ WellSeg s.level seg ∧ s'.level = s.level

theorem pushT_tokens (s : BState) (ty tag : String) (n : Int) (at_ m c d) :
    (s.pushT ty tag n at_ m c d).tokens = s.tokens ++ [tokAt s.level ty tag n at_ m c d] := rfl

theorem wellSeg_append {lvl : Int} {a b : List Tok} (ha : WellSeg lvl a) (hb : WellSeg lvl b) : WellSeg lvl (a ++ b) := by
  have := wellSegs_flatten lvl [a, b] (by
    intro g hg
    simp only [List.mem_cons, List.not_mem_nil, or_false] at hg
    rcases hg with rfl | rfl
    · exact ha
    · exact hb)
  simpa using this

theorem wellSeg_between (lvl : Int) (ty tag : String) (at_ m c d) (ty' tag' : String) (at' m' c' d') {mid : List Tok}
    (h : WellSeg (lvl + 1) mid) : WellSeg lvl (tokAt lvl ty tag 1 at_ m c d :: mid ++ [tokAt (lvl + 1) ty' tag' (-1) at' m' c' d']) :=
  wellSeg_wrap lvl _ _ mid rfl (by simp [tokAt, Tok.level]) rfl (by simp [tokAt, Tok.level]) h

theorem wellSeg_cellToks (ws : List Nat) (o c tg : String) (line : Nat) (cols : List (List Char)) (lvl : Int) :
    ∀ (as : List String) (i : Nat), WellSeg lvl (cellToks ws o c tg line cols lvl as i) := by
  intro as
  induction as with
  | nil => intro i; exact ⟨trivial, rfl, rfl⟩
  | cons a rest ih =>
    intro i
    refine wellSeg_append (wellSeg_between lvl _ _ _ _ _ _ _ _ _ _ _ _ (mid := [_]) ⟨?_, ?_, ?_⟩) (ih (i + 1))
    · simp [levelsOK, tokAt, Tok.level, Tok.nesting]
    · simp [depthAfter, tokAt, Tok.nesting]
    · simp [balancedFrom, tokAt, Tok.nesting]

theorem wellSeg_rowToks (ws : List Nat) (o c tg : String) (aligns : List String) (lvl : Int) (line : Nat) (cols : List (List Char)) :
    WellSeg lvl (rowToks ws o c tg aligns lvl line cols) :=
  wellSeg_between lvl _ _ _ _ _ _ _ _ _ _ _ _ (wellSeg_cellToks ws o c tg line cols (lvl + 1) aligns 0)

theorem wellSeg_rowsToks (ws : List Nat) (aligns : List String) (lvl : Int) : ∀ (rows : List (List (List Char))) (line : Nat),
    WellSeg lvl (rowsToks ws aligns lvl line rows) := by
  intro rows
  induction rows with
  | nil => intro line; exact ⟨trivial, rfl, rfl⟩
  | cons c cs ih => intro line; exact wellSeg_append (wellSeg_rowToks ..) (ih (line + 1))

theorem wellSeg_tableToks (ws : List Nat) (lvl : Int) (line : Nat) (aligns : List String) (cols : List (List Char))
    (rows : List (List (List Char))) (e1 e2 : Nat) : WellSeg lvl (tableToks ws lvl line aligns cols rows e1 e2) := by
  refine wellSeg_between lvl _ _ _ _ _ _ _ _ _ _ _ _ (wellSeg_append (wellSeg_between _ _ _ _ _ _ _ _ _ _ _ _ _ (wellSeg_rowToks ..)) ?_)
  cases rows with
  | nil => exact ⟨trivial, rfl, rfl⟩
  | cons c cs => exact wellSeg_between _ _ _ _ _ _ _ _ _ _ _ _ _ (wellSeg_rowsToks ..)

theorem appW_body (codeOn : Bool) (terms : List BRule) (hin : ∀ t ∈ terms, SilentInert t) (ws : List Nat)
    (aligns : List String) (startLine endLine : Nat) :
    ∀ (fuel next : Nat) (s : BState) (r : Nat) (s' : BState), endLine < s.lines.length → startLine + 2 ≤ next →
      tableBody codeOn terms ws aligns startLine endLine fuel next s = .ok (r, s') →
      next ≤ r ∧ AppW (if next = startLine + 2 ∧ next < r then s.pushT "tbody_open" "tbody" 1 [] (some (startLine + 2, 0)) none "" else s) s' := by
  intro fuel next s r s' hlen hge h
  have := tableBody_rows codeOn terms hin ws aligns startLine endLine fuel next s hlen hge
  rw [h] at this
  obtain ⟨_, rows, rfl, rfl⟩ := this
  refine ⟨Nat.le_add_right _ _, ?_⟩
  unfold bodyState
  by_cases hq : next = startLine + 2 ∧ rows ≠ []
  · rw [if_pos hq, if_pos ⟨hq.1, by have := List.length_pos_iff.mpr hq.2; omega⟩, pushT_open]
    exact ⟨rowsToks ws aligns (s.level + 1) next rows, by simp only [BState.add_tokens, List.append_assoc, List.singleton_append],
      wellSeg_rowsToks .., rfl⟩
  · rw [if_neg hq, if_neg (fun h => hq ⟨h.1, fun he => by rw [he] at h; exact Nat.lt_irrefl _ h.2⟩)]
    exact ⟨_, rfl, wellSeg_rowsToks .., Int.add_zero _⟩

theorem wellSeg_setMap (lvl : Int) (seg : List Tok) (j : Nat) (m : Option (Nat × Nat)) (h : WellSeg lvl seg) :
    WellSeg lvl (seg.modify j (fun t => t.setMap m)) :=
  WellSeg.congr (sameNL_modify _ (setMap_nesting · m) (setMap_level · m) seg j) h

theorem segOK_table (P : BState → Nat → Prop) (codeOn : Bool) (terms : List BRule) (hin : ∀ t ∈ terms, SilentInert t) (ws : List Nat) :
    SegOK P WellSegS (ruleTable codeOn terms ws) :=
  segOK_of_leaf (table_leaf P codeOn terms hin ws) fun _ _ _ _ _ _ ⟨_, _, _, _, _, _, hseg⟩ => hseg ▸ wellSeg_tableToks ..

theorem wellSeg_tLeaves (c : TCfg) (ws : List Nat) (mn : Int) (P : BState → Nat → Prop) :
    ∀ r ∈ tLeaves c ws mn, SegOK P WellSegS r :=
  forall_tLeaves (fun _ => segOK_table _ _ _ (mTerminators_inert c.toMCfg ws mn) ws)
    (wellSeg_leavesM P c.toMCfg (tParaTerms_inertE c ws mn) ws)

/-- **C02.t_wellformed** — ten of the eleven block rules, the `table` rule included, containers nested in each other to any depth: for
every source, rule subset, `html` option and `maxNesting`, the block stream is levelled from 0, ends at depth 0, is balanced, and
`SyntaxTreeNode(tokens)` builds -/
theorem t_wellformed (ext : IExt) (lx : LExt) (c : TCfg) (hnr : c.reference = false) (ws : List Nat) (maxNesting : Int) (src : List Char)
    (st : BState) (h : tParse ext lx c ws maxNesting src = .ok st) :
    levelsOK 0 st.tokens ∧ depthAfter 0 st.tokens = 0 ∧ balancedFrom 0 st.tokens = true ∧ ∃ f, buildTree st.tokens = .ok f := by
  obtain ⟨segs, hts, hS⟩ := tParse_segs WellSegS wellSegS_wrap wellSegS_listWrap ext lx c hnr ws maxNesting
    (fun P => wellSeg_tLeaves c ws maxNesting P) src st h
  exact wellformed_of_segs rfl hts hS

/-! non-vacuity: see the kernel-evaluated table parse in `Props/C01l.lean` (33 tokens, `tbody` present, the table ended by a quote) -/

theorem tableHead_columns {codeOn : Bool} {ws : List Nat} {s : BState} {line endLine : Nat} {aligns : List String} {cols : List (List Char)}
    (h : tableHead codeOn ws s line endLine = .ok (some (aligns, cols))) : cols.length = aligns.length ∧ 0 < cols.length := by
  obtain ⟨_, _, _, _, _, _, _, _, h1, h2⟩ := tableHead_spec h
  exact ⟨h1, h2⟩

theorem pushCells_count (ws : List Nat) (o c t : String) (line : Nat) (cols : List (List Char)) :
    ∀ (as : List String) (i : Nat) (s : BState), (pushCells ws o c t line cols as i s).tokens.length = s.tokens.length + 3 * as.length := by
  intro as
  induction as with
  | nil => intro i s; simp [pushCells]
  | cons a rest ih =>
    intro i s
    simp only [pushCells, ih, pushT_tokens, List.length_append, List.length_cons, List.length_nil]
    omega

end MdIt.C02
