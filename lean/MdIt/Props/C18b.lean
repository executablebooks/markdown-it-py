import MdIt.Proofs.Pipeline
/-!
# C18 (continued) — inline text means the same in every block context (on the end-to-end model)

In `MarkdownIt.parse` the children of an `inline` token are produced by the `inline` core rule from the token's `content`, the
configuration and the env — nothing of the block context (level, position, container, neighbouring blocks) enters.  On the model
(`MdIt/Pipeline.lean`, tied on whole documents by `fullparse`, which is where a change like seeded C18g — the inline parser's level
started at the block token's level — shows) every `inline` token of a whole parse carries exactly `J(inlineOf content)`, `J` =
`text_join`'s `_join` or the identity (`full_inline_local`), which is also what `parseInline` yields for the same text
(`inline_same_as_parseInline`).  With all eleven block rules (`fullT_inline_local`) the same holds of the `inline` token the table
rule makes for each header and body cell, under one env for all tokens of the parse (the proof takes the one the block parse left);
so a paragraph's and a cell's token with the same content have the same children (`cell_same_as_paragraph`).
-/
namespace MdIt.C18

def childrenOf (cls : QCls) (ext : IExt) (lx : LExt) (ic : ICfg) (mn : Int) (d : Nat) (content : List Char) : Except PyErr (List Tok) :=
  match inlineOf cls ext lx ic mn d content with
  | .error e => .error e
  | .ok cs => .ok (if ic.textJoinOn then joinToks [] cs else cs)

theorem core_local (cls : QCls) (ext : IExt) (lx : LExt) (ic : ICfg) (hon : ic.inlineOn = true) (mn : Int) (d : Nat) (bts ts : List Tok)
    (hc : coreTail ic (inlineOf cls ext lx ic mn d) bts = .ok ts) :
    ∀ t ∈ ts, t.type = "inline" →
      childrenOf cls ext lx ic mn d t.content.toList = .ok (t.children.getD []) ∧ t.children.isSome = true := by
  intro t ht hty
  obtain ⟨cs, hp, hch⟩ := coreTail_children hon hc t ht hty
  rw [childrenOf, hp, hch]
  exact ⟨rfl, rfl⟩

/-- **C18.full_inline_local** — every `inline` token of a whole parse carries, as children, a function of its own content (and of
configuration and env) only -/
theorem full_inline_local (cls : QCls) (ext : IExt) (lx : LExt) (bc : MCfg) (ic : ICfg) (hon : ic.inlineOn = true) (ws : List Nat) (mn : Int)
    (d : Nat) (src : List Char) (ts : List Tok) (h : fullParse cls ext lx bc ic ws mn d src = .ok ts) :
    ∀ t ∈ ts, t.type = "inline" → childrenOf cls ext lx ic mn d t.content.toList = .ok (t.children.getD []) ∧ t.children.isSome = true := by
  obtain ⟨bts, _, hc⟩ := fullParse_iff.1 h
  exact core_local cls ext lx ic hon mn d bts ts hc

/-- **C18.inline_same_as_parseInline** — the children an `inline` token gets inside any document are the children `parseInline`
gives the same text (same configuration and env): block context contributes nothing -/
theorem inline_same_as_parseInline (cls : QCls) (ext : IExt) (lx : LExt) (bc : MCfg) (ic : ICfg) (hon : ic.inlineOn = true) (ws : List Nat)
    (mn : Int) (d : Nat) (src : List Char) (ts : List Tok) (h : fullParse cls ext lx bc ic ws mn d src = .ok ts)
    (t : Tok) (ht : t ∈ ts) (hty : t.type = "inline") (text : List Char) (htext : normalize text = t.content.toList)
    (ps : List Tok) (hp : parseInlineM cls ext lx ic mn d text = .ok ps) :
    ∃ w, ps = [w] ∧ w.type = "inline" ∧ w.children = t.children := by
  -- `parseInlineM` is `coreTail` of its one token, so the result is that token with other children
  obtain ⟨w, rfl, hw⟩ := List.map_eq_singleton_iff.1 (coreTail_setCh (show coreTail ic _ [_] = _ from hp))
  have hwt : w.type = "inline" := by rw [← w.setChildren_type none, hw]; rfl
  have hwn : w.content = String.ofList (normalize text) := by rw [← w.setChildren_content none, hw]; rfl
  obtain ⟨bts, _, hc⟩ := fullParse_iff.1 h
  obtain ⟨cs, hq, e⟩ := coreTail_children hon hc t ht hty
  obtain ⟨cs', hq', e'⟩ := coreTail_children hon hp w List.mem_cons_self hwt
  rw [hwn, String.toList_ofList, htext, hq] at hq'
  cases hq'
  exact ⟨w, rfl, hwt, e'.trans e.symm⟩

theorem fullT_inline_local (cls : QCls) (ext : IExt) (lx : LExt) (tc : TCfg) (ic : ICfg) (hon : ic.inlineOn = true) (ws : List Nat) (mn : Int)
    (d : Nat) (src : List Char) (ts : List Tok) (refs dups) (h : fullParseT cls ext lx tc ic ws mn d src = .ok (ts, refs, dups)) :
    ∃ env, ∀ t ∈ ts, t.type = "inline" → childrenOf cls ext env ic mn d t.content.toList = .ok (t.children.getD []) ∧ t.children.isSome = true := by
  obtain ⟨st, _, hc, _⟩ := fullParseT_iff.1 h
  exact ⟨envAfter lx st, core_local cls ext (envAfter lx st) ic hon mn d st.tokens ts hc⟩

/-- two inline tokens of one parse with the same content — say a paragraph's and a table cell's — have the same children -/
theorem cell_same_as_paragraph (cls : QCls) (ext : IExt) (lx : LExt) (tc : TCfg) (ic : ICfg) (hon : ic.inlineOn = true) (ws : List Nat) (mn : Int)
    (d : Nat) (src : List Char) (ts : List Tok) (refs dups) (h : fullParseT cls ext lx tc ic ws mn d src = .ok (ts, refs, dups))
    (t u : Tok) (ht : t ∈ ts) (hu : u ∈ ts) (ht' : t.type = "inline") (hu' : u.type = "inline") (hc : t.content = u.content) :
    t.children = u.children := by
  obtain ⟨st, _, hcT, _⟩ := fullParseT_iff.1 h
  obtain ⟨cs, hp, e⟩ := coreTail_children hon hcT t ht ht'
  obtain ⟨cs', hp', e'⟩ := coreTail_children hon hcT u hu hu'
  rw [hc, hp'] at hp
  cases hp
  exact e.trans e'.symm

end MdIt.C18
