import MdIt.Props.C03b
import MdIt.Props.C02c
/-!
# C03 (continued) — source maps with block quotes

By `C03.loop_maps_final` the stages a loop adds end no later than the loop's final `state.line`: this is what makes a
container's map, patched to `state.line`, enclose its content.
-/
namespace MdIt.C03
open MdIt.C01 MdIt.C02

@[simp] theorem setMap_map (t : Tok) (m) : (t.setMap m).map = m := t.setMap_map m

/-- what the nested runs add at depth `d` is staged up to their final line -/
def InnerMaps (c : MiniCfg) (ws : List Nat) (mn : Int) (d : Nat) : Prop :=
  ∀ (s : BState) (startLine endLine : Nat) (s' : BState), s.lineMax + 1 ≤ s.lines.length → endLine ≤ s.lineMax → Lv mn d s endLine →
    blockTokenize (qChain c ws mn d) mn s startLine endLine = .ok s' →
    ∃ new, s'.tokens = s.tokens ++ new ∧ Staged startLine s'.line new

/-- the same for any chain `inner` of a container -/
def InnerMapsOf (mn : Int) (d : Nat) (inner : List BRule) : Prop :=
  ∀ (s : BState) (startLine endLine : Nat) (s' : BState), s.lineMax + 1 ≤ s.lines.length → endLine ≤ s.lineMax → Lv mn d s endLine →
    blockTokenize inner mn s startLine endLine = .ok s' →
    ∃ new, s'.tokens = s.tokens ++ new ∧ Staged startLine s'.line new

theorem innerMaps_of_chain (mn : Int) (d : Nat) (rules : List BRule) (hok : ∀ r ∈ rules, RuleOK (Lv mn d) r)
    (hmap : ∀ r ∈ rules, MapOK (Lv mn d) r) : InnerMapsOf mn d rules :=
  fun s startLine endLine s' hlen hend hlv hrun =>
    loop_maps_final (Lv mn d) (lv_closed mn d) rules hok hmap mn endLine _ startLine false s s' hlen hend hlv hrun

theorem mapsIn_wrapped {a b : Nat} (hab : a < b) (openT closeT : Tok) (hc : closeT.map = none) (mid : List Tok) (hmid : MapsIn a b mid) :
    MapsIn a b ([openT.setMap (some (a, b))] ++ mid ++ [closeT]) := by
  intro t ht x y hm
  simp only [List.mem_append, List.mem_singleton] at ht
  rcases ht with (rfl | ht) | rfl
  · rw [setMap_map] at hm; cases hm; exact ⟨Nat.le_refl _, hab, Nat.le_refl _⟩
  · exact hmid t ht x y hm
  · rw [hc] at hm; cases hm

/-- the quote's map is `[startLine, state.line)` and encloses the maps of its nested run -/
theorem mapOK_blockquote (mn : Int) (d : Nat) (codeOn : Bool) (terms : List BRule) (hin : ∀ t ∈ terms, SilentInert t)
    (inner : List BRule) (hinner : InnerOK mn d inner) (hmaps : InnerMapsOf mn d inner) :
    MapOK (Lv mn (d + 1)) (ruleBlockquote codeOn terms inner mn) := by
  have key := quote_shape mn d codeOn terms hin inner hinner
  refine ⟨fun s line endLine s' hc h => ?_, fun s line endLine s' hc h => by rw [miss_of_cases (key s line endLine hc) h]⟩
  obtain ⟨_, hlt, _, s3, s4, next, openT, closeT, hl3, hlen3, hend3, hLv3, hrun, _, htok, _, _, _, _, _, _, hline, hcm, _⟩ :=
    hit_of_cases (key s line endLine hc) h
  obtain ⟨new, hs4, hst⟩ := hmaps s3 line next s4 hlen3 hend3 hLv3 hrun
  rw [hline] at hlt ⊢
  exact ⟨_, htok new hs4, mapsIn_wrapped hlt openT closeT hcm new hst.mapsIn⟩

/-- `hok`: the family meets K1–K4 (`tower_ok`); `hl`: the map contract of the list rule over any chain (`mapOK_list` in `C03d`), which
    a family without lists does not need -/
theorem tower_maps {mn : Int} {leaves : List BRule} {lst : Bool} {ch : Nat → List BRule} (T : Tower mn leaves lst ch)
    (hok : ∀ d : Nat, (∀ r ∈ ch d, RuleOK (Lv mn d) r) ∧ InnerOK mn d (ch d))
    (hl : lst = true → ∀ d codeOn terms, (∀ t ∈ terms, SilentInert t) → ∀ inner, InnerOK mn d inner → InnerMapsOf mn d inner →
      MapOK (Lv mn (d + 1)) (ruleList codeOn terms inner mn))
    (hleaf : ∀ (P : BState → Nat → Prop), ∀ r ∈ leaves, MapOK P r) : ∀ d : Nat,
    (∀ r ∈ ch d, MapOK (Lv mn d) r) ∧ InnerMapsOf mn d (ch d) :=
  T.induct (fun d h => innerMaps_of_chain mn d _ (hok d).1 h) (fun _ => hleaf _)
    (fun d codeOn terms hin hi => mapOK_blockquote mn d codeOn terms hin _ (hok d).2 hi)
    (fun h d codeOn terms hin hi => hl h d codeOn terms hin _ (hok d).2 hi)

theorem qChain_maps (c : MiniCfg) (ws : List Nat) (mn : Int) : ∀ d : Nat,
    (∀ r ∈ qChain c ws mn d, MapOK (Lv mn d) r) ∧ InnerMaps c ws mn d :=
  tower_maps (qTower c ws mn) (qChain_ok c ws mn) nofun (mapOK_leaves · c (inertE_of_inert (qTerminators_inert c ws mn)) ws)

theorem parse_staged (mn : Int) (chain : List BRule) (hok : ∀ r ∈ chain, RuleOK (Lv mn (mn.toNat + 1)) r)
    (hmap : ∀ r ∈ chain, MapOK (Lv mn (mn.toNat + 1)) r) (src : List Char) (st : BState) (h : blockParse chain mn src = .ok st) :
    Staged 0 (initBState (normalize src)).lineMax st.tokens :=
  blockParse_ind (fun st => Staged 0 (initBState (normalize src)).lineMax st.tokens) h (.nil _ _) fun s' hs' => by
    obtain ⟨new, hn, hst⟩ := loop_maps_staged (Lv mn (mn.toNat + 1)) (lv_closed _ _) _ hok hmap mn (initBState (normalize src)).lineMax _ 0
      false (initBState (normalize src)) s' (initBState_len _) (Nat.le_refl _) (lv_top mn _ _) hs'
    rw [hn]; exact hst

/-- **C03.q_staged** — with block quotes nested to any depth: the top-level blocks of the stream are staged inside the
document (maps in range, non-empty, increasing, disjoint), and every token of a stage, at whatever depth inside a quote, has its map
inside the stage's line range.  That a token between a `blockquote_open` and its `blockquote_close` has its map inside that quote's
map, at every depth, is proved on the way (`mapOK_blockquote`) and not recorded in the statement. -/
theorem q_staged (c : MiniCfg) (ws : List Nat) (maxNesting : Int) (src : List Char) (ts : List Tok)
    (h : qParse c ws maxNesting src = .ok ts) : Staged 0 (initBState (normalize src)).lineMax ts := by
  obtain ⟨st, hst, rfl⟩ := parseWith_state h
  exact parse_staged maxNesting _ (qChain_ok c ws maxNesting _).1 (qChain_maps c ws maxNesting _).1 src st hst

end MdIt.C03
