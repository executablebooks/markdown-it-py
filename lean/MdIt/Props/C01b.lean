import MdIt.Props.C01
import MdIt.Proofs.BlockChain
/-!
# C01 (continued) — the contracts proved for the modelled leaf block rules; the block parse of the sub-parser is total

`code`, `fence`, `hr`, `heading` and `paragraph` (MdIt/BlockRules.lean, tied to the real rules by the differential `miniblock` check
on whole documents) satisfy K1–K4 for every call the loop makes and `paragraph` always matches, so by `C01.block_tokenize_total`
normalisation + line scan + block loop returns normally (`mini_total`).  Each rule's answer to a call is stated exactly (`BlockLeaf`);
the contracts are read off that form.
-/
namespace MdIt.C01

/-- the caller-specific part of the call context for these chains: the range ends at `lineMax` (true at
    top level; `paragraph` scans to `state.lineMax`, not to the `endLine` it is given) -/
def TopCtx : BState → Nat → Prop := fun s e => e = s.lineMax

theorem topCtx_closed : FrameClosed TopCtx := fun _ _ _ hf h => by
  unfold TopCtx at *; rw [hf.lineMax]; exact h

theorem ruleOK_of_cases {P : BState → Nat → Prop} {r : BRule}
    (h : ∀ s line endLine, CallCtx P s line endLine → (∃ pt, r s line endLine false = .ok (false, { s with parentType := pt })) ∨
      ∃ s', r s line endLine false = .ok (true, s') ∧ s.FrameEq s' ∧ line < s'.line ∧ s'.line ≤ s.lineMax) : RuleOK P r := by
  refine ⟨?_, ?_, ?_, ?_⟩
  · intro s line endLine hc
    rcases h s line endLine hc with ⟨_, h'⟩ | ⟨s', h', _⟩ <;> exact ⟨_, _, h'⟩
  · intro s line endLine s' hc hr
    rcases h s line endLine hc with ⟨_, h'⟩ | ⟨s'', h', _, h1, h2⟩
    · rw [h'] at hr; cases hr
    · rw [h'] at hr; cases hr; exact ⟨h1, h2⟩
  · intro s line endLine s' hc hr
    rcases h s line endLine hc with ⟨_, h'⟩ | ⟨s'', h', _⟩
    · rw [h'] at hr; cases hr; rfl
    · rw [h'] at hr; cases hr
  · intro s line endLine m s' hc hr
    rcases h s line endLine hc with ⟨_, h'⟩ | ⟨s'', h', hf, _⟩
    · rw [h'] at hr; cases hr; exact ⟨⟨rfl, rfl⟩, rfl, rfl, rfl⟩
    · rw [h'] at hr; cases hr; exact hf

theorem miss_of_cases {x : Except PyErr (Bool × BState)} {s s' : BState} {Q : BState → Prop}
    (h : x = .ok (false, s) ∨ ∃ s'', x = .ok (true, s'') ∧ Q s'') (hr : x = .ok (false, s')) : s' = s := by
  rcases h with h | ⟨_, h, _⟩
  · rw [h] at hr; cases hr; rfl
  · rw [h] at hr; cases hr

theorem hit_of_cases {x : Except PyErr (Bool × BState)} {s s' : BState} {Q : BState → Prop}
    (h : x = .ok (false, s) ∨ ∃ s'', x = .ok (true, s'') ∧ Q s'') (hr : x = .ok (true, s')) : Q s' := by
  rcases h with h | ⟨_, h, hq⟩
  · rw [h] at hr; cases hr
  · rw [h] at hr; cases hr; exact hq

/-- the exact answer of a leaf rule to a call of the loop.  `pts`: the `parentType`s a miss may leave behind (`lheading` leaves
    `"paragraph"`); `D`: which line and tokens a match yields.  Every rule but `paragraph` ends by `endLine` and says so in its `D`;
    `paragraph` scans to `state.lineMax`. -/
def BlockLeaf (P : BState → Nat → Prop) (pts : List String) (D : BState → Nat → Nat → Nat → List Tok → Prop) (r : BRule) : Prop :=
  ∀ s line endLine, CallCtx P s line endLine →
    (∃ pt ∈ s.parentType :: pts, r s line endLine false = .ok (false, { s with parentType := pt })) ∨
    ∃ n seg, r s line endLine false = .ok (true, { s with line := n, tokens := s.tokens ++ seg }) ∧ line < n ∧ n ≤ s.lineMax ∧
      D s line endLine n seg

theorem BlockLeaf.hit {P pts D r} (h : BlockLeaf P pts D r) {s s' : BState} {line endLine : Nat} (hc : CallCtx P s line endLine)
    (hr : r s line endLine false = .ok (true, s')) :
    ∃ n seg, s' = { s with line := n, tokens := s.tokens ++ seg } ∧ line < n ∧ n ≤ s.lineMax ∧ D s line endLine n seg := by
  rcases h s line endLine hc with ⟨_, _, h'⟩ | ⟨n, seg, h', hn⟩
  · rw [h'] at hr; cases hr
  · rw [h'] at hr; cases hr; exact ⟨n, seg, rfl, hn⟩

theorem BlockLeaf.miss {P pts D r} (h : BlockLeaf P pts D r) {s s' : BState} {line endLine : Nat} (hc : CallCtx P s line endLine)
    (hr : r s line endLine false = .ok (false, s')) : s'.tokens = s.tokens := by
  rcases h s line endLine hc with ⟨_, _, h'⟩ | ⟨n, seg, h', _⟩
  · rw [h'] at hr; cases hr; rfl
  · rw [h'] at hr; cases hr

theorem BlockLeaf.ruleOK {P pts D r} (h : BlockLeaf P pts D r) : RuleOK P r :=
  ruleOK_of_cases fun s line endLine hc => (h s line endLine hc).imp (fun ⟨pt, _, h'⟩ => ⟨pt, h'⟩) fun ⟨_, _, h', h1, h2, _⟩ =>
    ⟨_, h', ⟨⟨rfl, rfl⟩, rfl, rfl, rfl⟩, h1, h2⟩

theorem hr_shape (P) (codeOn : Bool) :
    BlockLeaf P [] (fun s line endLine n seg => n ≤ endLine ∧ ∃ l mk, s.lines[line]? = some l ∧ hrMarkup l.body = some mk ∧ n = line + 1 ∧
      seg = [pushedTok s "hr" "hr" 0 (some (line, n)) none "" (String.ofList mk) ""]) (ruleHr codeOn) := by
  intro s line endLine hc
  obtain ⟨l, hl, _, _⟩ := hc.here
  simp only [ruleHr, getL_of_here hl, Bool.false_eq_true, if_false]
  split
  · exact .inl ⟨_, List.mem_cons_self, rfl⟩
  · split
    · exact .inl ⟨_, List.mem_cons_self, rfl⟩
    · rename_i mk hmk
      have := hc.lt; have := hc.le
      exact .inr ⟨line + 1, _, by rw [pushFull_zero]; rfl, by omega, by omega, hc.lt, l, mk, hl, hmk, rfl, rfl⟩

theorem ruleOK_hr (P) (codeOn : Bool) : RuleOK P (ruleHr codeOn) := (hr_shape P codeOn).ruleOK

theorem heading_shape (P) (codeOn : Bool) (ws : List Nat) :
    BlockLeaf P [] (fun s line endLine n seg => n ≤ endLine ∧ n = line + 1 ∧ ∃ k c, seg = tripleToks s "heading_open" "heading_close"
      ("h" ++ toString k) (String.ofList (List.replicate k '#')) (line, n) (line, n) c) (ruleHeading codeOn ws) := by
  intro s line endLine hc
  obtain ⟨l, hl, _, _⟩ := hc.here
  rw [ruleHeading_eq codeOn ws s line endLine false (getL_of_here hl)]
  split
  · exact .inl ⟨_, List.mem_cons_self, rfl⟩
  · split
    · exact .inl ⟨_, List.mem_cons_self, rfl⟩
    · rename_i k after ho
      have := hc.lt; have := hc.le
      exact .inr ⟨line + 1, _, by rw [headingPush_eq]; rfl, by omega, by omega, hc.lt, rfl, k, _, rfl⟩

theorem ruleOK_heading (P) (codeOn : Bool) (ws : List Nat) : RuleOK P (ruleHeading codeOn ws) := (heading_shape P codeOn ws).ruleOK

theorem code_shape (P) (codeOn : Bool) :
    BlockLeaf P [] (fun s line endLine n seg => n ≤ endLine ∧ ∃ c, getLinesB s line n (4 + s.blkIndent) false = .ok c ∧
      seg = [pushedTok s "code_block" "code" 0 (some (line, n)) none (String.ofList (c ++ ['\n'])) "" ""]) (ruleCode codeOn) := by
  intro s line endLine hc
  obtain ⟨l, hl, _, _⟩ := hc.here
  have := hc.len; have := hc.le; have := hc.lt
  simp only [ruleCode, getL_of_here hl]
  split
  · exact .inl ⟨_, List.mem_cons_self, rfl⟩
  · obtain ⟨last, h1, h2, h3⟩ := codeScan_ok codeOn s endLine (by omega) (endLine - line + 1) (line + 1) (line + 1) (by omega) (by omega)
      (Nat.le_refl _)
    obtain ⟨c, hcx⟩ := getLinesB_ok s line last (4 + s.blkIndent) false (by omega)
    simp only [h1, hcx]
    exact .inr ⟨last, _, by rw [pushFull_zero]; rfl, h2, by omega, h3, c, hcx, rfl⟩

theorem ruleOK_code (P) (codeOn : Bool) : RuleOK P (ruleCode codeOn) := (code_shape P codeOn).ruleOK

theorem fence_shape (P) (codeOn : Bool) :
    BlockLeaf P [] (fun s line endLine n seg => n ≤ endLine ∧ ∃ c mk info, seg = [pushedTok s "fence" "code" 0 (some (line, n)) none c mk info] ∧
      ∃ l marker len params e cs, s.lines[line]? = some l ∧ fenceOpen l.body = some (marker, len, params) ∧ (n = e ∨ n = e + 1) ∧
        getLinesB s (line + 1) e l.sCount true = .ok cs ∧ c = String.ofList cs ∧ mk = String.ofList (List.replicate len marker) ∧
        info = String.ofList params) (ruleFence codeOn) := by
  intro s line endLine hc
  obtain ⟨l, hl, _, _⟩ := hc.here
  have := hc.len; have := hc.le
  rw [ruleFence_eq codeOn s line endLine false (getL_of_here hl)]
  split
  · exact .inl ⟨_, List.mem_cons_self, rfl⟩
  · split
    · exact .inl ⟨_, List.mem_cons_self, rfl⟩
    · rename_i marker len params ho
      obtain ⟨next, b, h1, h2, h3, h4⟩ := fenceScan_ok codeOn s endLine marker len (by omega) (endLine - line + 1) line (by omega) hc.lt
      obtain ⟨c, hcx⟩ := getLinesB_ok s (line + 1) next l.sCount true (by omega)
      simp only [fenceBody, h1, hcx, Bool.false_eq_true, if_false]
      have hn : next + (if b = true then 1 else 0) ≤ endLine := by
        cases b with
        | true => have := h4 rfl; simp; omega
        | false => simp; omega
      refine .inr ⟨next + (if b = true then 1 else 0), _, by rw [pushFull_zero]; rfl, by omega, by omega, hn, _, _, _, rfl,
        l, marker, len, params, next, c, hl, ho, ?_, hcx, rfl, rfl, rfl⟩
      cases b <;> simp

theorem ruleOK_fence (P) (codeOn : Bool) : RuleOK P (ruleFence codeOn) := (fence_shape P codeOn).ruleOK

theorem paragraph_hit (P : BState → Nat → Prop) (terms : List BRule) (hin : ∀ t ∈ terms, SilentInertE t) (ws : List Nat)
    (s : BState) (line endLine : Nat) (hc : CallCtx P s line endLine) :
    ∃ n c, line < n ∧ n ≤ s.lineMax ∧ ruleParagraph terms ws s line endLine false = .ok (true,
      { s with line := n, tokens := s.tokens ++ tripleToks s "paragraph_open" "paragraph_close" "p" "" (line, n) (line, n) c }) := by
  have hlenE : s.lineMax < s.lines.length := by have := hc.len; omega
  obtain ⟨next, h1, h2, h3⟩ := paraScan_okE terms hin { s with parentType := "paragraph" } s.lineMax hlenE
    (s.lineMax - line + 1) (line + 1) (by omega) (by have := hc.lt; have := hc.le; omega)
  obtain ⟨c, hcx⟩ := getLinesB_ok { s with parentType := "paragraph" } line next s.blkIndent false (by simp; omega)
  simp only [ruleParagraph, h1, hcx]
  exact ⟨next, _, h2, h3, by rw [pushFull_triple]; rfl⟩

theorem paragraph_shapeE (P : BState → Nat → Prop) (terms : List BRule) (hin : ∀ t ∈ terms, SilentInertE t) (ws : List Nat) :
    BlockLeaf P [] (fun s line _ n seg => ∃ c, seg = tripleToks s "paragraph_open" "paragraph_close" "p" "" (line, n) (line, n) c)
      (ruleParagraph terms ws) := fun s line endLine hc =>
  let ⟨n, c, h1, h2, h⟩ := paragraph_hit P terms hin ws s line endLine hc
  .inr ⟨n, _, h, h1, h2, c, rfl⟩

theorem ruleOK_paragraphE (P : BState → Nat → Prop) (terms : List BRule) (hin : ∀ t ∈ terms, SilentInertE t) (ws : List Nat) :
    RuleOK P (ruleParagraph terms ws) := (paragraph_shapeE P terms hin ws).ruleOK

theorem ruleOK_paragraph (P : BState → Nat → Prop) (terms : List BRule) (hin : ∀ t ∈ terms, SilentInert t) (ws : List Nat) :
    RuleOK P (ruleParagraph terms ws) :=
  ruleOK_paragraphE P terms (inertE_of_inert hin) ws

theorem paragraph_alwaysE (P : BState → Nat → Prop) (terms : List BRule) (hin : ∀ t ∈ terms, SilentInertE t) (ws : List Nat) :
    AlwaysMatches P (ruleParagraph terms ws) := fun s line endLine hc =>
  let ⟨_, _, _, _, h⟩ := paragraph_hit P terms hin ws s line endLine hc
  ⟨_, h⟩

theorem paragraph_always (P : BState → Nat → Prop) (terms : List BRule) (hin : ∀ t ∈ terms, SilentInert t) (ws : List Nat) :
    AlwaysMatches P (ruleParagraph terms ws) :=
  paragraph_alwaysE P terms (inertE_of_inert hin) ws

theorem paragraph_shape (P : BState → Nat → Prop) (terms : List BRule) (hin : ∀ t ∈ terms, SilentInert t) (ws : List Nat)
    (s : BState) (line endLine : Nat) (hc : CallCtx P s line endLine) :
    ∃ next c, line + 1 ≤ next ∧ next ≤ s.lineMax ∧ ruleParagraph terms ws s line endLine false = .ok (true,
      { (((({ s with parentType := "paragraph", line := next }).pushFull "paragraph_open" "p" 1 (some (line, next)) none "" "" "").pushFull
          "inline" "" 0 (some (line, next)) (some []) c "" "").pushFull "paragraph_close" "p" (-1) none none "" "" "") with
        parentType := s.parentType }) := by
  obtain ⟨n, c, h1, h2, h⟩ := paragraph_hit P terms (inertE_of_inert hin) ws s line endLine hc
  exact ⟨n, c, h1, h2, by rw [h, pushFull_triple]; rfl⟩

theorem ruleOK_leaves (P : BState → Nat → Prop) (c : MiniCfg) {pt : List BRule} (hpt : ∀ t ∈ pt, SilentInertE t) (ws : List Nat) :
    ∀ r ∈ leaves c pt ws, RuleOK P r :=
  forall_leaves (fun _ => ruleOK_code _ _) (fun _ => ruleOK_fence _ _) (fun _ => ruleOK_hr _ _) (fun _ => ruleOK_heading _ _ _)
    (ruleOK_paragraphE _ _ hpt ws)

theorem miniChain_ok (c : MiniCfg) (ws : List Nat) : ∀ r ∈ miniChain c ws, RuleOK TopCtx r :=
  ruleOK_leaves _ c (inertE_of_inert (miniTerminators_inert c ws)) ws

theorem miniChain_last (c : MiniCfg) (ws : List Nat) : ∃ r ∈ miniChain c ws, AlwaysMatches TopCtx r :=
  ⟨ruleParagraph (miniTerminators c ws) ws, by simp [miniChain], paragraph_always _ _ (miniTerminators_inert c ws) ws⟩

theorem initBState_len (src : List Char) : (initBState src).lineMax + 1 ≤ (initBState src).lines.length := by
  simp [initBState]

/-- **C01.mini_total** — for every source text, every subset of the optional rules `code`, `fence`, `hr`,
`heading`, every white-space table and every `maxNesting`, the modelled block parse (normalize, line scan,
block loop with the modelled rules) returns a token list: it never raises and never fails to make progress -/
theorem mini_total (c : MiniCfg) (ws : List Nat) (maxNesting : Int) (src : List Char) :
    ∃ ts, miniParse c ws maxNesting src = .ok ts :=
  parseWith_total <| blockParse_total ((block_tokenize_total TopCtx topCtx_closed (miniChain c ws) (miniChain_ok c ws) (miniChain_last c ws)
    maxNesting (initBState (normalize src)) 0 (initBState (normalize src)).lineMax (initBState_len _) (Nat.le_refl _) rfl).imp
    fun _ h => h.1)

/-! non-vacuity: a concrete document goes through all five rules -/
def typesOf (r : Except PyErr (List Tok)) : Option (List String) :=
  match r with
  | .ok ts => some (ts.map Tok.type)
  | .error _ => none

example : typesOf (miniParse ⟨true, true, true, true⟩ [32, 9, 10] 100 "# h\n\n    code\n\n```\nf\n```\n***\npara\nmore\n".toList)
    = some ["heading_open", "inline", "heading_close", "code_block", "fence", "hr",
      "paragraph_open", "inline", "paragraph_close"] := by decide +kernel

end MdIt.C01
