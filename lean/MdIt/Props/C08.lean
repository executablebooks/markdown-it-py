import MdIt.Verbatim
/-!
# C08 — verbatim content and recorded markup come from the source, unaltered
-/
namespace MdIt.C08

def isBlankCh (c : Char) : Prop := c = ' ' ∨ c = '\t'

/-- invariant of the stripping loop: what has been consumed so far are blanks or characters of the
line's prefix (container markers, `i < tShift`), nothing is reordered, and the indent overshoots the
target by at most 3 columns — and only when the last consumed character is a tab -/
theorem cutGo_spec (tShift bs indent : Nat) (chars : List Char) (i li : Nat) :
    ∃ removed, chars = removed ++ (cutGo tShift bs indent chars i li).1
      ∧ (∀ k (h : k < removed.length), isBlankCh removed[k] ∨ i + k < tShift)
      ∧ li ≤ (cutGo tShift bs indent chars i li).2
      ∧ (li ≤ indent + 3 → (cutGo tShift bs indent chars i li).2 ≤ indent + 3)
      ∧ (li ≤ indent → indent < (cutGo tShift bs indent chars i li).2 → removed.getLast? = some '\t') := by
  induction chars generalizing i li with
  | nil => exact ⟨[], rfl, by intro k h; simp at h, Nat.le_refl _, fun h => h, by intro h1 h2; simp [cutGo] at h2; omega⟩
  | cons c cs ih =>
    simp only [cutGo]
    by_cases hlt : li < indent
    · simp only [hlt, if_true]
      have step : ∀ li' : Nat, li < li' → li' ≤ li + 4 → (isBlankCh c ∨ i < tShift) → (li' > li + 1 → c = '\t') →
          ∃ removed, c :: cs = removed ++ (cutGo tShift bs indent cs (i + 1) li').1
            ∧ (∀ k (h : k < removed.length), isBlankCh removed[k] ∨ i + k < tShift)
            ∧ li ≤ (cutGo tShift bs indent cs (i + 1) li').2
            ∧ (li ≤ indent + 3 → (cutGo tShift bs indent cs (i + 1) li').2 ≤ indent + 3)
            ∧ (li ≤ indent → indent < (cutGo tShift bs indent cs (i + 1) li').2 → removed.getLast? = some '\t') := by
        intro li' h1 h2 hc htab
        obtain ⟨rem, e1, e2, e3, e4, e5⟩ := ih (i + 1) li'
        refine ⟨c :: rem, by rw [List.cons_append, ← e1], ?_, by omega, fun _ => e4 (by omega), ?_⟩
        · intro k hk
          cases k with
          | zero => simpa using hc
          | succ k' =>
            have := e2 k' (by simpa using hk)
            rcases this with h | h
            · exact Or.inl (by simpa using h)
            · exact Or.inr (by omega)
        · intro _ hov
          by_cases hle : li' ≤ indent
          · have := e5 hle hov
            cases rem with
            | nil => simp at this
            | cons r rs => simpa using this
          · -- this very step overshot: li < indent < li'
            have hrest : (cutGo tShift bs indent cs (i + 1) li') = (cs, li') := by
              cases cs with
              | nil => simp [cutGo]
              | cons d ds => simp [cutGo]; omega
            have hrem : rem = [] := by
              have := e1; rw [hrest] at this; simpa using this
            subst hrem
            have : c = '\t' := htab (by omega)
            simp [this]
      by_cases ht : c = '\t'
      · simp only [ht, if_true]
        subst ht
        exact step _ (by omega) (by omega) (Or.inl (Or.inr rfl)) (fun _ => rfl)
      · simp only [ht, if_false]
        by_cases hs : c = ' '
        · simp only [hs, if_true]
          subst hs
          exact step _ (by omega) (by omega) (Or.inl (Or.inl rfl)) (fun h => by omega)
        · simp only [hs, if_false]
          by_cases hsh : i < tShift
          · simp only [hsh, if_true]
            exact step _ (by omega) (by omega) (Or.inr hsh) (fun h => by omega)
          · simp only [hsh, if_false]
            exact ⟨[], rfl, by intro k h; simp at h, Nat.le_refl _, fun h => h, fun h1 h2 => by omega⟩
    · simp only [hlt, if_false]
      exact ⟨[], rfl, by intro k h; simp at h, Nat.le_refl _, fun h => h, fun h1 h2 => by omega⟩

/-- **C08.cutLine_spec** (getLines: one line) — the content line is the source line with only leading characters
removed — blanks, or characters of the line's container prefix — followed by everything else
unaltered and in order; at most 3 spaces are put in front, and only when the last removed character
is a tab (a partially consumed tab). -/
theorem cutLine_spec (chars : List Char) (tShift bs indent : Nat) :
    ∃ removed rest pad, chars = removed ++ rest ∧ cutLine chars tShift bs indent = pad ++ rest
      ∧ (∀ k (h : k < removed.length), isBlankCh removed[k] ∨ k < tShift)
      ∧ (∃ n, pad = List.replicate n ' ' ∧ n ≤ 3 ∧ (0 < n → removed.getLast? = some '\t')) := by
  obtain ⟨removed, h1, h2, _, h4, h5⟩ := cutGo_spec tShift bs indent chars 0 0
  refine ⟨removed, (cutGo tShift bs indent chars 0 0).1, _, h1, rfl, ?_, ?_⟩
  · intro k hk; simpa using h2 k hk
  · have hb := h4 (by omega)
    by_cases hgt : (cutGo tShift bs indent chars 0 0).2 > indent
    · exact ⟨(cutGo tShift bs indent chars 0 0).2 - indent, by simp [hgt], by omega, fun _ => h5 (by omega) hgt⟩
    · exact ⟨0, by simp [hgt], by omega, fun h => by omega⟩

/-- **C08.codespan_spec** (codespan) — a code span holds the text between its backtick strings with line endings as
spaces (`c` below); exactly one space is removed from each side iff both are present and the text is
not all spaces; otherwise nothing is removed -/
theorem codespan_spec (inner c : List Char) (hc : c = inner.map (fun ch => if ch = '\n' then ' ' else ch)) :
    codeSpanContent inner = c ∨ (c = ' ' :: codeSpanContent inner ++ [' '] ∧ c.any (· ≠ ' ') = true) := by
  unfold codeSpanContent
  simp only [← hc]
  split
  · rename_i h
    right
    refine ⟨?_, h.2.2⟩
    obtain ⟨h1, h2, h3⟩ := h
    cases c with
    | nil => simp at h1
    | cons a rest =>
      simp only [List.head?_cons, Option.some.injEq] at h1
      subst h1
      simp only [List.drop_succ_cons, List.drop_zero, List.cons_append, List.cons.injEq, true_and]
      cases rest with
      | nil => simp at h3
      | cons b bs =>
        have hne : (b :: bs) ≠ [] := by simp
        have hl : (b :: bs).getLast hne = ' ' := by
          have := List.getLast?_eq_some_getLast hne
          simp only [List.getLast?_cons_cons] at h2
          rw [this] at h2; exact Option.some.inj h2
        have := List.dropLast_concat_getLast hne
        rw [hl] at this
        exact this.symm
  · left; rfl

theorem codespan_keeps (inner : List Char) (h : ∀ ch ∈ inner, ch = ' ') : codeSpanContent inner = inner := by
  have hm : inner.map (fun ch => if ch = '\n' then ' ' else ch) = inner := by
    induction inner with
    | nil => rfl
    | cons x xs ih =>
      have hx := h x (by simp)
      subst hx
      simp only [List.map_cons]
      rw [ih (fun ch hch => h ch (by simp [hch]))]
      rfl
  unfold codeSpanContent
  simp only [hm]
  split
  · rename_i hh
    have := hh.2.2
    rw [List.any_eq_true] at this
    obtain ⟨x, hx, hne⟩ := this
    simp [h x hx] at hne
  · rfl

theorem hrCount_spec (m : Char) (rest : List Char) (cnt n : Nat) (h : hrCount m rest cnt = some n) :
    n = cnt + rest.count m ∧ ∀ ch ∈ rest, ch = m ∨ ch = ' ' ∨ ch = '\t' := by
  induction rest generalizing cnt with
  | nil => simp [hrCount] at h; exact ⟨by simp [h], by simp⟩
  | cons ch r ih =>
    simp only [hrCount] at h
    split at h
    · cases h
    · rename_i hc
      have := ih _ h
      by_cases hm : ch = m
      · subst hm
        simp only [if_true] at this
        refine ⟨by rw [this.1]; simp; omega, ?_⟩
        intro x hx; simp at hx; rcases hx with rfl | hx
        · exact Or.inl rfl
        · exact this.2 x hx
      · simp only [hm, if_false] at this
        have hcnt : (ch :: r).count m = r.count m := by
          rw [List.count_cons]; simp [hm]
        refine ⟨by rw [this.1, hcnt], ?_⟩
        intro x hx; simp at hx; rcases hx with rfl | hx
        · by_cases hb : x = ' ' ∨ x = '\t'
          · exact Or.inr hb
          · exact absurd ⟨hm, hb⟩ hc
        · exact this.2 x hx

/-- **C08.hr_markup** (markup: hr) — the markup of a thematic break is the marker character repeated exactly as
often as it occurs on the line, and the line consists of markers and blanks only -/
theorem hr_markup (text mk : List Char) (h : hrMarkup text = some mk) :
    ∃ m, (m = '*' ∨ m = '-' ∨ m = '_') ∧ mk = List.replicate (text.count m) m ∧ 3 ≤ text.count m
      ∧ ∀ ch ∈ text, ch = m ∨ ch = ' ' ∨ ch = '\t' := by
  cases text with
  | nil => simp [hrMarkup] at h
  | cons m rest =>
    simp only [hrMarkup] at h
    split at h
    · rename_i hm
      cases hc : hrCount m rest 1 with
      | none => rw [hc] at h; cases h
      | some cnt =>
        rw [hc] at h
        simp only at h
        split at h
        · cases h
        · rename_i hge
          simp only [Option.some.injEq] at h
          have := hrCount_spec m rest 1 cnt hc
          refine ⟨m, hm, ?_, ?_, ?_⟩
          · rw [← h, this.1]; simp; omega
          · simp; omega
          · intro ch hch; simp at hch; rcases hch with rfl | hch
            · exact Or.inl rfl
            · exact this.2 ch hch
    · cases h

/-! non-vacuity: three markers for `- - -` (defect D3 recorded one too many); a NBSP span keeps its padding (D4) -/
example : hrMarkup "- - -".toList = some "---".toList := by decide
example : cutLine "  \tx\n".toList 0 0 4 = "x\n".toList ∧ cutLine " \tx".toList 0 0 2 = "  x".toList := by decide
example : codeSpanContent " a ".toList = "a".toList ∧ codeSpanContent "  ".toList = "  ".toList
    ∧ codeSpanContent "   ".toList = " ".toList := by decide

end MdIt.C08
