import MdIt.Props.C06g
/-!
# C06e.list_law — the list-indent half of the container law, for the modelled sub-parser
-/
namespace MdIt.C06e
open MdIt.C01 MdIt.C02 MdIt.C06 MdIt.C07

theorem listify_clean (marker : List Char) (o : Bool) (d : Char) (hm : Marker marker o d) (k : Nat) (l0 : List Char) (rest : List (List Char))
    (hcl : ∀ l ∈ l0 :: rest, Clean l) : ∀ l ∈ listify marker k l0 rest, Clean l := by
  intro l hl
  have key : ∀ c ∈ l, MarkerChar c ∨ c = ' ' ∨ ∃ x ∈ l0 :: rest, c ∈ x := by
    intro c hc
    simp only [listify, List.mem_cons, List.mem_map] at hl
    rcases hl with rfl | ⟨x, hx, rfl⟩
    · simp only [List.mem_append, List.mem_replicate] at hc
      rcases hc with (hc | hc) | hc
      · exact .inl (hm.chars _ hc)
      · exact .inr (.inl hc.2)
      · exact .inr (.inr ⟨l0, List.mem_cons_self .., hc⟩)
    · simp only [indentLine, List.mem_append, List.mem_replicate] at hc
      rcases hc with hc | hc
      · exact .inr (.inl hc.2)
      · exact .inr (.inr ⟨x, List.mem_cons_of_mem _ hx, hc⟩)
  have ok : ∀ c ∈ l, c ≠ '\n' ∧ c ≠ '\t' ∧ c ≠ '\r' ∧ c ≠ '\x00' := by
    intro c hc
    rcases key c hc with h | rfl | ⟨x, hx, h⟩
    · exact ⟨h.ne.1, h.ne.2.1, h.ne.2.2.1, h.ne.2.2.2.1⟩
    · decide
    · obtain ⟨h1, h2, h3, h4⟩ := hcl x hx
      exact ⟨fun e => h1 (e ▸ h), fun e => h2 (e ▸ h), fun e => h3 (e ▸ h), fun e => h4 (e ▸ h)⟩
  exact ⟨fun h => (ok _ h).1 rfl, fun h => (ok _ h).2.1 rfl, fun h => (ok _ h).2.2.1 rfl, fun h => (ok _ h).2.2.2 rfl⟩

/-- **C06e.list_law** (the list-indent half of the container law, for the modelled sub-parser `code, fence, blockquote, hr, list,
heading, paragraph`) — for every document `D` given by its lines (no tab, CR, NUL, line feed, and no `>` in any line; the first
line starts with a non-blank), every list marker (`* - +`, or 1–9 digits and `)` or `.`), every `k` from 1 to 4, every subset of
`code`, `fence`, `hr`, `heading` and every `maxNesting ≥ 0`: unless the combined first line is a thematic break, putting the
marker and `k` spaces before the first line and `|marker| + k` spaces before every other line parses — with two more levels of
nesting allowed — to one list with one item spanning all lines whose content is the token stream of `D` two levels deeper:
everything the same but `level` and the `hidden` flag (a tight list hides the paragraphs that are direct children of the item).
Documents with a `>` are excluded because a lazy continuation line inside a block quote keeps the item's indentation in its
text — the exception the property names. -/
theorem list_law (c : MiniCfg) (ws : List Nat) (mn : Int) (hmn : 0 ≤ mn) (l0 : List Char) (rest : List (List Char))
    (hcl : ∀ l ∈ l0 :: rest, Clean l ∧ '>' ∉ l) (c0 : Char) (cs0 : List Char) (hl0 : l0 = c0 :: cs0) (hc0 : c0 ≠ ' ')
    (marker : List Char) (ordered : Bool) (mc : Char) (hmk : Marker marker ordered mc) (k : Nat) (hk1 : 1 ≤ k) (hk4 : k ≤ 4)
    (hhr : c.hr = true → hrMarkup (marker ++ List.replicate k ' ' ++ l0) = none)
    (tsD : List Tok) (hD : lParse c ws mn (srcOf (l0 :: rest)) = .ok tsD) :
    ∃ ts', lParse c ws (mn + 2) (srcOf (listify marker k l0 rest)) = .ok ts' ∧
      HidEq ts' (listOpenTok0 ordered mc (digitsVal (List.take (marker.length - 1) (marker ++ List.replicate k ' ' ++ l0))) (rest.length + 1)
        :: itemOpenTok mc (if ordered = true then String.ofList (List.take (marker.length - 1) (marker ++ List.replicate k ' ' ++ l0)) else "") (rest.length + 1)
        :: tsD.map (Tok.shift 2) ++ [itemCloseTok mc 2, listCloseTok ordered mc 1]) := by
  have hcl1 : ∀ l ∈ l0 :: rest, Clean l := fun l hl => (hcl l hl).1
  obtain ⟨hok, hinner⟩ := C01.lChain_ok c ws mn (mn.toNat + 1)
  have hlead := (hmk.facts k hk1 l0).1
  have hq0 := listify_first marker k l0 rest
  obtain ⟨hbody, hsc, hts⟩ := lineRec_lead0 hlead
  have hclT := listify_clean marker ordered mc hmk k l0 rest hcl1
  obtain ⟨h0c, htl, rfl⟩ : ∃ h0c htl, marker = h0c :: htl := by
    cases marker with
    | nil => exact absurd hmk.pos (Nat.lt_irrefl 0)
    | cons a b => exact ⟨a, b, rfl⟩
  obtain ⟨_, _, _, _, _, ngt, nbt, ntl⟩ := (hmk.chars h0c (List.mem_cons_self ..)).ne
  unfold lParse
  rw [show (mn + 2).toNat + 1 = (mn.toNat + 1 + 1) + 1 by omega]
  unfold lChain
  rw [List.append_assoc _ _ [ruleParagraph _ _], List.append_assoc _ [ruleList _ _ _ _] _]
  refine container_law (Q := HidEq) (wrap := fun ts => listOpenTok0 ordered mc _ (rest.length + 1) :: itemOpenTok mc _ (rest.length + 1)
      :: ts.map (Tok.shift 2) ++ [itemCloseTok mc 2, listCloseTok ordered mc 1]) hok hinner (List.cons_ne_nil _ _) hcl1 hclT
    (by simp [listify]) hq0 (by unfold BLine.empty; rw [hts]; rfl) hsc (by omega) ?_
    (fun tD hrun hline hfr => list_rule_law hcl hl0 hc0 hmk hk1 hk4 c.code (lListTerms c (mn + 2)) _ _ mn
      (lChain_shs 2 0 _ c ws mn (mn.toNat + 1)) tD hrun hline hfr) hD
  simp only [List.forall_mem_append, forall_mem_opt, List.forall_mem_singleton]
  have hg0 := getL_of_here hq0
  exact ⟨⟨⟨fun _ => code_declines _ _ _ _ _ hg0 (stD_notCode _ _ hsc),
    fun _ => fence_declines_head _ _ _ _ _ hg0 _ (by rw [hbody]; rfl) nbt ntl⟩,
    quote_declines _ _ _ _ _ _ _ _ hg0 (by rw [hbody]; simp [ngt])⟩, fun hhrOn => hr_declines _ _ _ _ _ hg0 (by rw [hbody]; exact hhr hhrOn)⟩

def demoI0 : List Char := "# h".toList
def demoIrest : List (List Char) := ["".toList, "- x".toList, "".toList, "  y".toList, "~~~".toList, " f".toList, "~~~".toList, "    code".toList, "para".toList, " more".toList]

example : (∀ l ∈ demoI0 :: demoIrest, Clean l ∧ '>' ∉ l) ∧ Marker "12.".toList true '.' ∧ Marker "-".toList false '-' := by
  refine ⟨?_, Marker.ordered '1' ['2'] '.' (by decide +kernel) (by decide +kernel) (by decide +kernel) (Or.inr rfl), Marker.bullet '-' (Or.inr (Or.inl rfl))⟩
  intro l hl
  simp only [demoI0, demoIrest, List.mem_cons, List.not_mem_nil, or_false] at hl
  rcases hl with rfl | rfl | rfl | rfl | rfl | rfl | rfl | rfl | rfl | rfl | rfl <;> (unfold Clean; decide +kernel)

example : hrMarkup ("12.".toList ++ List.replicate 2 ' ' ++ demoI0) = none ∧ hrMarkup ("-".toList ++ List.replicate 1 ' ' ++ demoI0) = none := by decide +kernel

def shape5 (r : Except PyErr (List Tok)) : Option (List (String × Option (Nat × Nat) × Int × String)) :=
  match r with
  | .ok ts => some (ts.map (fun t => (t.type, t.map, t.level, t.content)))
  | .error _ => none

example : shape5 (lParse ⟨true, true, true, true⟩ [32, 9, 10] 22 (srcOf (listify "12.".toList 2 demoI0 demoIrest)))
    = (do let b ← shape5 ((lParse ⟨true, true, true, true⟩ [32, 9, 10] 20 (srcOf (demoI0 :: demoIrest))).map (List.map (Tok.shift 2)))
          pure ([("ordered_list_open", some (0, 11), (0 : Int), ""), ("list_item_open", some (0, 11), 1, "")] ++ b
            ++ [("list_item_close", none, 1, ""), ("ordered_list_close", none, 0, "")])) := by decide +kernel

example : shape5 (lParse ⟨true, true, true, true⟩ [32, 9, 10] 22 (srcOf (listify "-".toList 1 demoI0 demoIrest)))
    = (do let b ← shape5 ((lParse ⟨true, true, true, true⟩ [32, 9, 10] 20 (srcOf (demoI0 :: demoIrest))).map (List.map (Tok.shift 2)))
          pure ([("bullet_list_open", some (0, 11), (0 : Int), ""), ("list_item_open", some (0, 11), 1, "")] ++ b
            ++ [("list_item_close", none, 1, ""), ("bullet_list_close", none, 0, "")])) := by decide +kernel

/-- the excluded case is real: with a block quote in `D`, a lazy continuation line keeps the item's indentation in its text -/
example : shape5 (lParse ⟨true, true, true, true⟩ [32, 9, 10] 22 (srcOf (listify "-".toList 1 "> q".toList ["lazy".toList])))
    ≠ (do let b ← shape5 ((lParse ⟨true, true, true, true⟩ [32, 9, 10] 20 (srcOf ["> q".toList, "lazy".toList])).map (List.map (Tok.shift 2)))
          pure ([("bullet_list_open", some (0, 2), (0 : Int), ""), ("list_item_open", some (0, 2), 1, "")] ++ b
            ++ [("list_item_close", none, 1, ""), ("bullet_list_close", none, 0, "")])) := by decide +kernel

end MdIt.C06e
