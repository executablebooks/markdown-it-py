import MdIt.Props.C06c
/-!
# C07 (continued) — what follows a top-level block parses as if it stood alone, with its line numbers shifted

A second simulation, with a *line shift*: `TR tt pp k n spre pre s s'` relates a run to one whose line table, from index `n` on, is
the first's up to `bsCount`, with `line` / `lineMax` shifted by `n`, levels by `k`, and token lists `spre ++ ts` and `pre ++ ts'`,
`ts'` the tokens `ts` with maps shifted by `n`.  What lies before index `n` in the second table and the two prefixes are
unconstrained, and so are `tight` and `parentType` unless the flags `tt` / `pp` ask for them: no rule of `qChain` reads them (a rule
called at `line ≥ n` never looks at an earlier line).  The relation keeps two runs in lockstep (`TR.lockstep`), so every rule of
`qChain`, the terminator chains, the loop and the nested runs preserve it (`ShSim`); hence `suffix_shift`.  That an iteration of the
loop starts at the first line of `B` is a hypothesis of `concat_law` (`hseam`): this prefix half of the law stays with the oracle.
-/
namespace MdIt.C07
open MdIt.C01 MdIt.C06

/-- a map `n` lines further down -/
def shiftM (n : Nat) : Option (Nat × Nat) → Option (Nat × Nat)
  | none => none
  | some (a, b) => some (a + n, b + n)

/-- the token `k` levels deeper and `n` lines further down -/
def _root_.MdIt.Tok.shift2 (k : Int) (n : Nat) : Tok → Tok
  | .mk ty tag ne a m lvl ch c mku info md b h => .mk ty tag ne a (shiftM n m) (lvl + k) ch c mku info md b h

/-- `spre` / `pre`: what the two token lists held before the segment compared.  `tt`, `pp`: whether `tight` / `parentType` agree; only
the list rule (`Props/C07c.lean`) needs them: it reads the `tight` its nested runs leave, and `parentType` in silent mode. -/
structure TR (tt pp : Bool) (k : Int) (n : Nat) (spre pre : List Tok) (s s' : BState) : Prop where
  lines : LR s.lines (s'.lines.drop n)
  len : s'.lines.length = s.lines.length + n
  notab : NoTab s.lines
  line : s'.line = s.line + n
  lineMax : s'.lineMax = s.lineMax + n
  blkIndent : s'.blkIndent = s.blkIndent
  level : s'.level = s.level + k
  listIndent : s'.listIndent = s.listIndent
  tight : tt = true → s'.tight = s.tight
  parent : pp = true → s'.parentType = s.parentType
  tokens : ∃ ts, s.tokens = spre ++ ts ∧ s'.tokens = pre ++ ts.map (Tok.shift2 k n)

/-! ### the relation in two halves

`TR` and the column-shift relation of `Props/C06e.lean` say the same of `line`, `level`, `tight`, `parentType` and the token lists
(`Run`) and differ in what they say of the line tables and the indents (`Layout`).  Pushes and map patches concern `Run` only, line
rewrites and indents the layout only, so the list rule is compared once for both (`Props/C07c.lean`). -/

structure Layout where
  lines : List BLine
  lineMax : Nat
  blkIndent : Int
  listIndent : Int

def _root_.MdIt.BState.layout (s : BState) : Layout := ⟨s.lines, s.lineMax, s.blkIndent, s.listIndent⟩

structure Run (tt pp : Bool) (k : Int) (n : Nat) (spre pre : List Tok) (s s' : BState) : Prop where
  line : s'.line = s.line + n
  level : s'.level = s.level + k
  tight : tt = true → s'.tight = s.tight
  parent : pp = true → s'.parentType = s.parentType
  tokens : ∃ ts, s.tokens = spre ++ ts ∧ s'.tokens = pre ++ ts.map (Tok.shift2 k n)

/-- the index `i` is what of the layouts stays fixed during a run and changes inside a list item -/
def Rel {ι : Type} (F : ι → Layout → Layout → Prop) (i : ι) (tt pp : Bool) (k : Int) (n : Nat) (spre pre : List Tok) (s s' : BState) : Prop :=
  F i s.layout s'.layout ∧ Run tt pp k n spre pre s s'

def Fr (n : Nat) (_ : Unit) (f f' : Layout) : Prop :=
  LR f.lines (f'.lines.drop n) ∧ f'.lines.length = f.lines.length + n ∧ NoTab f.lines ∧ f'.lineMax = f.lineMax + n
    ∧ f'.blkIndent = f.blkIndent ∧ f'.listIndent = f.listIndent

theorem TR_eq (tt pp : Bool) (k : Int) (n : Nat) (spre pre : List Tok) (j : Unit) : TR tt pp k n spre pre = Rel (Fr n) j tt pp k n spre pre := by
  funext s s'
  exact propext ⟨fun h => ⟨⟨h.lines, h.len, h.notab, h.lineMax, h.blkIndent, h.listIndent⟩, ⟨h.line, h.level, h.tight, h.parent, h.tokens⟩⟩,
    fun ⟨⟨a, b, c, d, e, f⟩, r⟩ => ⟨a, b, c, r.line, d, e, r.level, f, r.tight, r.parent, r.tokens⟩⟩

theorem Fr.reads {n j s s'} (h : Fr n j s.layout s'.layout) : Reads zbView n s s' := by
  obtain ⟨hl, hlen, hnt, hmax, hblk, _⟩ := h
  refine ⟨fun i l hq => ?_, fun i hq => ?_, hmax, by rw [show s'.blkIndent = s.blkIndent from hblk]; simp [zbView], .inl rfl⟩
  · obtain ⟨l', h1, h2⟩ := hl.get i l hq
    rw [List.getElem?_drop, Nat.add_comm] at h1
    exact ⟨l', h1, ⟨h2, hnt l (List.mem_of_getElem? hq)⟩, fun _ => ⟨h2, hnt l (List.mem_of_getElem? hq)⟩⟩
  · rw [List.getElem?_eq_none_iff] at hq ⊢
    rw [show s'.lines.length = s.lines.length + n from hlen]; omega

theorem Fr.setLine {n j f f'} (h : Fr n j f f') (i : Nat) {a a' : BLine} (hz : zb a' = zb a) (ha : '\t' ∉ a.text) {b b' li li' : Int}
    (hb : b' = b) (hli : li' = li) : Fr n j ⟨f.lines.set i a, f.lineMax, b, li⟩ ⟨f'.lines.set (i + n) a', f'.lineMax, b', li'⟩ := by
  refine ⟨?_, ?_, h.2.2.1.set i ha, h.2.2.2.1, hb, hli⟩
  · show LR (f.lines.set i a) ((f'.lines.set (i + n) a').drop n)
    rw [show (f'.lines.set (i + n) a').drop n = (f'.lines.drop n).set i a' by rw [List.set_drop, Nat.add_comm]]
    exact h.1.set i hz
  · show (f'.lines.set (i + n) a').length = (f.lines.set i a).length + n
    simp [h.2.1]

theorem TR.reads {tt pp k n spre pre s s'} (h : TR tt pp k n spre pre s s') : Reads zbView n s s' :=
  Fr.reads (j := ()) (TR_eq .. ▸ h).1

theorem getL_sh {tt pp k n spre pre s s'} (h : TR tt pp k n spre pre s s') (i j : Nat) (hj : j = i + n) (l : BLine) (hg : getL s i = .ok l) :
    ∃ l', getL s' j = .ok l' ∧ zb l' = zb l ∧ '\t' ∉ l.text := by
  subst hj; exact h.reads.getL trivial hg

theorem getL_cases {s : BState} {i : Nat} {α} {f : BLine → Except PyErr α} {r : α}
    (h : (match getL s i with | .error e => (Except.error e : Except PyErr α) | .ok l => f l) = .ok r) : ∃ l, getL s i = .ok l ∧ f l = .ok r := by
  cases hg : getL s i with
  | error e => rw [hg] at h; cases h
  | ok l => rw [hg] at h; exact ⟨l, rfl, h⟩

theorem isCode_sh {tt pp k n spre pre s s'} (h : TR tt pp k n spre pre s s') (codeOn : Bool) {l l' : BLine} (hz : zb l' = zb l) :
    isCodeLine codeOn s' l' = isCodeLine codeOn s l := by
  simp [isCodeLine, (zb_eq hz).1, h.blkIndent]

theorem isEmpty_sh {tt pp k n spre pre s s'} (h : TR tt pp k n spre pre s s') (i : Nat) : s'.isEmpty ((i + n : Nat) : Int) = s.isEmpty (i : Int) :=
  isEmpty_reads h.reads i

theorem shift2_pushed (k : Int) (n : Nat) (s s' : BState) (hl : s'.level = s.level + k) (a b : String) (ne : Int) (m m' c d e f)
    (hm : m' = shiftM n m) :
    pushedTok s' a b ne m' c d e f = (pushedTok s a b ne m c d e f).shift2 k n := by
  subst hm
  by_cases hn : ne < 0
  · simp only [pushedTok, Tok.shift2, hl, hn, if_true]; congr 1; omega
  · simp only [pushedTok, Tok.shift2, hl, hn, if_false]

theorem shiftM_map (n : Nat) : ∀ m : Option (Nat × Nat), m.map (fun p => (p.1 + n, p.2 + n)) = shiftM n m
  | none => rfl
  | some (_, _) => rfl

theorem shiftM_some {n a b a' b' : Nat} (ha : a' = a + n) (hb : b' = b + n) : some (a', b') = shiftM n (some (a, b)) := by
  subst ha; subst hb; rfl

section run
variable {tt pp : Bool} {k : Int} {n : Nat} {spre pre : List Tok} {s s' : BState}

theorem Run.setLineNo (h : Run tt pp k n spre pre s s') (a a' : Nat) (ha : a' = a + n) :
    Run tt pp k n spre pre { s with line := a } { s' with line := a' } :=
  ⟨ha, h.level, h.tight, h.parent, h.tokens⟩

theorem Run.setTight (h : Run tt pp k n spre pre s s') (b b' : Bool) (hb : tt = true → b' = b) :
    Run tt pp k n spre pre { s with tight := b } { s' with tight := b' } :=
  ⟨h.line, h.level, hb, h.parent, h.tokens⟩

theorem Run.setParent (h : Run tt pp k n spre pre s s') (pp0 : Bool) (p p' : String) (hp : pp0 = true → p' = p) :
    Run tt pp0 k n spre pre { s with parentType := p } { s' with parentType := p' } :=
  ⟨h.line, h.level, h.tight, hp, h.tokens⟩

theorem Run.rebase (h : Run tt pp k n spre pre s s') : Run tt pp k n s.tokens s'.tokens s s' :=
  ⟨h.line, h.level, h.tight, h.parent, ⟨[], by simp, by simp⟩⟩

/-- a push whose two maps need not be related yet (the opening token of a container, patched later): related after a rebase -/
theorem Run.pushRebase (h : Run tt pp k n spre pre s s') (a b : String) (ne : Int) (m m' c d e f) :
    Run tt pp k n (s.pushFull a b ne m c d e f).tokens (s'.pushFull a b ne m' c d e f).tokens (s.pushFull a b ne m c d e f) (s'.pushFull a b ne m' c d e f) := by
  refine ⟨h.line, ?_, h.tight, h.parent, ⟨[], by simp, by simp⟩⟩
  simp only [BState.pushFull, h.level]; split <;> split <;> omega

theorem Run.push (h : Run tt pp k n spre pre s s') (a b : String) (ne : Int) (m m' c d e f) (hm : m' = shiftM n m) :
    Run tt pp k n spre pre (s.pushFull a b ne m c d e f) (s'.pushFull a b ne m' c d e f) := by
  obtain ⟨ts, a1, a2⟩ := h.tokens
  refine ⟨h.line, (h.pushRebase a b ne m m' c d e f).level, h.tight, h.parent, ts ++ [pushedTok s a b ne m c d e f], ?_, ?_⟩
  · rw [pushFull_tokens, a1]; simp
  · rw [pushFull_tokens, a2, shift2_pushed k n s s' h.level a b ne m m' c d e f hm]; simp

end run

theorem Rel.lockstep {V : LinesRel} {n : Nat} {ι : Type} {F : ι → Layout → Layout → Prop}
    (hreads : ∀ {i} {s s' : BState}, F i s.layout s'.layout → Reads V n s s') (i : ι) (tt pp : Bool) (k : Int) (spre pre : List Tok) :
    Lockstep V n tt (Rel F i tt pp k n spre pre) where
  reads h := hreads h.1
  line h := h.2.line
  setLineNo a h := ⟨h.1, h.2.setLineNo a (a + n) rfl⟩
  setTight b b' hb h := ⟨h.1, h.2.setTight b b' hb⟩
  push a b ne m m' c d e f hm h := ⟨h.1, h.2.push a b ne m m' c d e f (hm.trans (shiftM_map n m))⟩

theorem TR.setLineNo {tt pp k n spre pre s s'} (h : TR tt pp k n spre pre s s') (a a' : Nat) (ha : a' = a + n) :
    TR tt pp k n spre pre { s with line := a } { s' with line := a' } := by
  rw [TR_eq _ _ _ _ _ _ ()] at h ⊢; exact ⟨h.1, h.2.setLineNo a a' ha⟩

theorem TR.setLine {tt pp k n spre pre s s'} (h : TR tt pp k n spre pre s s') (i j : Nat) (hj : j = i + n) {a a' : BLine} (hz : zb a' = zb a) (ha : '\t' ∉ a.text) :
    TR tt pp k n spre pre (s.setLine i a) (s'.setLine j a') := by
  subst hj
  rw [TR_eq _ _ _ _ _ _ ()] at h ⊢
  exact ⟨h.1.setLine i hz ha h.1.2.2.2.2.1 h.1.2.2.2.2.2, h.2.line, h.2.level, h.2.tight, h.2.parent, h.2.tokens⟩

theorem TR.setLineMax {tt pp k n spre pre s s'} (h : TR tt pp k n spre pre s s') (a a' : Nat) (ha : a' = a + n) :
    TR tt pp k n spre pre { s with lineMax := a } { s' with lineMax := a' } :=
  ⟨h.lines, h.len, h.notab, h.line, ha, h.blkIndent, h.level, h.listIndent, h.tight, h.parent, h.tokens⟩

theorem TR.setBlk {tt pp k n spre pre s s'} (h : TR tt pp k n spre pre s s') (b : Int) : TR tt pp k n spre pre { s with blkIndent := b } { s' with blkIndent := b } :=
  ⟨h.lines, h.len, h.notab, h.line, h.lineMax, rfl, h.level, h.listIndent, h.tight, h.parent, h.tokens⟩

theorem TR.setParent {tt pp k n spre pre s s'} (h : TR tt pp k n spre pre s s') (pp0 : Bool) (p p' : String) (hp : pp0 = true → p' = p) :
    TR tt pp0 k n spre pre { s with parentType := p } { s' with parentType := p' } := by
  rw [TR_eq _ _ _ _ _ _ ()] at h ⊢; exact ⟨h.1, h.2.setParent pp0 p p' hp⟩

theorem TR.lockstep (tt pp : Bool) (k : Int) (n : Nat) (spre pre : List Tok) : Lockstep zbView n tt (TR tt pp k n spre pre) :=
  TR_eq tt pp k n spre pre () ▸ Rel.lockstep Fr.reads () tt pp k spre pre

theorem TR.quoteOps (tt pp : Bool) (k : Int) (n : Nat) (spre pre : List Tok) : QuoteOps n (TR tt pp k n spre pre) where
  setLineMax a h := h.setLineMax a (a + n) rfl
  setLine i _ _ hz ha h := h.setLine i (i + n) rfl hz ha

/-- only a silent call may assume that `parentType` agrees (`pp`) -/
def ShSim (k : Int) (n : Nat) (r r' : BRule) : Prop :=
  ∀ tt pp spre pre s s' line endLine silent m t, TR tt pp k n spre pre s s' → (silent = true → pp = true) →
    r s line endLine silent = .ok (m, t) →
    ∃ t', r' s' (line + n) (endLine + n) silent = .ok (m, t') ∧ TR tt pp k n spre pre t t'

macro "sh_same" h:ident hsr:term : tactic =>
  `(tactic| (simp only [Except.ok.injEq, Prod.mk.injEq] at $h:ident; obtain ⟨h1, h2⟩ := $h:ident; subst h1; subst h2; exact ⟨_, rfl, $hsr⟩))

theorem sh_hr (k : Int) (n : Nat) (codeOn : Bool) : ShSim k n (ruleHr codeOn) (ruleHr codeOn) :=
  fun tt pp spre pre _ _ line endLine silent _ _ hsr _ h =>
    (hr_fwd (TR.lockstep tt pp k n spre pre) codeOn hsr line endLine silent trivial).toRule h

theorem sh_heading (k : Int) (n : Nat) (codeOn : Bool) (ws : List Nat) : ShSim k n (ruleHeading codeOn ws) (ruleHeading codeOn ws) :=
  fun tt pp spre pre _ _ line endLine silent _ _ hsr _ h =>
    (heading_fwd (TR.lockstep tt pp k n spre pre) codeOn ws hsr line endLine silent trivial).toRule h

theorem sh_code (k : Int) (n : Nat) (codeOn : Bool) : ShSim k n (ruleCode codeOn) (ruleCode codeOn) :=
  fun tt pp spre pre _ _ line endLine silent _ _ hsr _ h =>
    (code_fwd (TR.lockstep tt pp k n spre pre) codeOn hsr line endLine silent trivial (fun _ _ => trivial)).toRule h

theorem sh_fence (k : Int) (n : Nat) (codeOn : Bool) : ShSim k n (ruleFence codeOn) (ruleFence codeOn) :=
  fun tt pp spre pre _ _ line endLine silent _ _ hsr _ h =>
    (fence_fwd (TR.lockstep tt pp k n spre pre) codeOn hsr line endLine silent trivial (fun _ _ => trivial)).toRule h

inductive ShSims (k : Int) (n : Nat) : List BRule → List BRule → Prop where
  | nil : ShSims k n [] []
  | cons {r r' rs rs'} : ShSim k n r r' → ShSims k n rs rs' → ShSims k n (r :: rs) (r' :: rs')

theorem ShSims.append {k n} {a a' b b' : List BRule} (h1 : ShSims k n a a') (h2 : ShSims k n b b') : ShSims k n (a ++ b) (a' ++ b') := by
  induction h1 with
  | nil => exact h2
  | cons hr _ ih => exact .cons hr ih

theorem ShSims.opt {k n} (c : Bool) {r r' : BRule} (h : ShSim k n r r') : ShSims k n (if c then [r] else []) (if c then [r'] else []) := by
  cases c
  · exact .nil
  · exact .cons h .nil

theorem ShSims.chain {k n} {rs rs' : List BRule} (hs : ShSims k n rs rs') (tt pp : Bool) (spre pre : List Tok) (silent : Bool)
    (hp : silent = true → pp = true) : ChainFwd (fun _ _ => True) n (TR tt pp k n spre pre) silent rs rs' := by
  induction hs with
  | nil => exact .nil
  | cons hr _ ih => exact .cons (fun line endLine _ h => Fwd.ofRule fun m t hq => hr tt pp spre pre _ _ line endLine silent m t h hp hq) ih

theorem runTerminators_sh {k n} {ts ts' : List BRule} (hs : ShSims k n ts ts') :
    ∀ {tt spre pre s s'} (line endLine : Nat) (b : Bool) (s1 : BState), TR tt true k n spre pre s s' → runTerminators ts s line endLine = .ok (b, s1) →
      ∃ s1', runTerminators ts' s' (line + n) (endLine + n) = .ok (b, s1') ∧ TR tt true k n spre pre s1 s1' :=
  fun line endLine _ _ hsr h => (runTerminators_fwd (hs.chain _ true _ _ true (fun _ => rfl)) line endLine trivial hsr).toRule h

theorem sh_paragraph (k : Int) (n : Nat) {ts ts' : List BRule} (hs : ShSims k n ts ts') (ws : List Nat) :
    ShSim k n (ruleParagraph ts ws) (ruleParagraph ts' ws) :=
  fun tt pp spre pre _ _ line endLine silent _ _ hsr _ h =>
    (paragraph_fwd (TR.lockstep tt true k n spre pre) (hs.chain tt true spre pre true (fun _ => rfl)) ws line endLine silent
      hsr.lineMax (fun _ _ => ⟨trivial, trivial⟩) (hsr.setParent true _ _ (fun _ => rfl)) (fun h => h.setParent pp _ _ hsr.parent)).toRule h

theorem blockLoop_sh {k n} {rules rules' : List BRule} (hs : ShSims k n rules rules') (mn : Int) (endLine : Nat) :
    ∀ (fuel line : Nat) (he he' : Bool) {tt pp spre pre s s'} (t : BState), TR tt pp k n spre pre s s' → (tt = true → he' = he) →
      blockLoop rules mn endLine fuel line he s = .ok t →
      ∃ t', blockLoop rules' (mn + k) (endLine + n) fuel (line + n) he' s' = .ok t' ∧ TR tt pp k n spre pre t t' :=
  fun fuel line he he' tt pp spre pre _ _ t hsr hhe h =>
    blockLoop_fwd (TR.lockstep tt pp k n spre pre) (fun h => by rw [h.level]; omega)
      (hs.chain tt pp spre pre false (fun h => by cases h)) endLine (fun _ _ => ⟨trivial, trivial⟩) fuel line he he' hsr hhe t h

theorem shift2_setMap (k : Int) (n : Nat) (t : Tok) (m) : (t.setMap m).shift2 k n = (t.shift2 k n).setMap (shiftM n m) := by cases t; rfl

theorem modify_sh (k : Int) (n : Nat) (pre ts : List Tok) (i : Nat) (m m' : Option (Nat × Nat)) (hm : m' = shiftM n m) :
    (pre ++ ts.map (Tok.shift2 k n)).modify (pre.length + i) (fun t => t.setMap m') = pre ++ (ts.modify i (fun t => t.setMap m)).map (Tok.shift2 k n) := by
  subst hm
  rw [modify_append_right, map_modify _ _ _ (fun t => (shift2_setMap k n t m).symm)]

theorem blockTokenize_sh {k n} {rules rules' : List BRule} (hs : ShSims k n rules rules') (mn : Int) {tt pp spre pre s s'} (a b : Nat) (t : BState)
    (hsr : TR tt pp k n spre pre s s') (h : blockTokenize rules mn s a b = .ok t) :
    ∃ t', blockTokenize rules' (mn + k) s' (a + n) (b + n) = .ok t' ∧ TR tt pp k n spre pre t t' := by
  unfold blockTokenize at h ⊢
  rw [Nat.add_sub_add_right]
  exact blockLoop_sh hs mn b _ a false false t hsr (fun _ => rfl) h

theorem TR.rebase {tt pp k n spre pre s s'} (h : TR tt pp k n spre pre s s') : TR tt pp k n s.tokens s'.tokens s s' := by
  rw [TR_eq _ _ _ _ _ _ ()] at h ⊢; exact ⟨h.1, h.2.rebase⟩

theorem TR.pushRebase {tt pp k n spre pre s s'} (h : TR tt pp k n spre pre s s') (a b : String) (ne : Int) (m m' c d e f) :
    TR tt pp k n (s.pushFull a b ne m c d e f).tokens (s'.pushFull a b ne m' c d e f).tokens (s.pushFull a b ne m c d e f) (s'.pushFull a b ne m' c d e f) := by
  rw [TR_eq _ _ _ _ _ _ ()] at h ⊢; exact ⟨h.1, h.2.pushRebase a b ne m m' c d e f⟩

theorem setMap_pushed_shift (k : Int) (n : Nat) (s s' : BState) (hl : s'.level = s.level + k) (a b : String) (ne : Int) (m0 m0' m m' c d e f)
    (hm : m' = shiftM n m) :
    (pushedTok s' a b ne m0' c d e f).setMap m' = ((pushedTok s a b ne m0 c d e f).setMap m).shift2 k n :=
  shift2_pushed k n s s' hl a b ne m m' c d e f hm

/-- the token lists of a container in the two runs: before it `a` / `a'` (related after the prefixes), the opening tokens `o` / `o'`,
what the nested run appended (`its`, related), the closing tokens `c` / `c'`; the opening token's map is patched at the end -/
theorem container_tokens (k : Int) (n : Nat) {spre pre ts0 a a' b b' its : List Tok} {o o' c c' : Tok} {m m' : Option (Nat × Nat)}
    (ha : a = spre ++ ts0) (ha' : a' = pre ++ ts0.map (Tok.shift2 k n))
    (hb : b = a ++ [o] ++ its) (hb' : b' = a' ++ [o'] ++ its.map (Tok.shift2 k n))
    (hc : c' = c.shift2 k n) (ho : o'.setMap m' = (o.setMap m).shift2 k n) :
    (b ++ [c]).modify a.length (fun t => t.setMap m) = spre ++ (ts0 ++ [o.setMap m] ++ its ++ [c])
    ∧ (b' ++ [c']).modify a'.length (fun t => t.setMap m') = pre ++ (ts0 ++ [o.setMap m] ++ its ++ [c]).map (Tok.shift2 k n) := by
  subst hb hb' hc
  constructor
  · simp only [List.append_assoc, List.cons_append, List.nil_append]
    rw [modify_append_len, ha]; simp
  · simp only [List.append_assoc, List.cons_append, List.nil_append]
    rw [modify_append_len, ho, ha']; simp

theorem sh_quote (k : Int) (n : Nat) (codeOn : Bool) {ts ts' inner inner' : List BRule} (hts : ShSims k n ts ts') (hin : ShSims k n inner inner') (mn : Int) :
    ShSim k n (ruleBlockquote codeOn ts inner mn) (ruleBlockquote codeOn ts' inner' (mn + k)) := by
  intro tt pp spre pre s s' line endLine silent m t hsr _
  -- across the nested run the token lists are compared after the opening tokens (`pushRebase`)
  refine (quote_fwd (R3 := fun x x' => TR tt true k n (quoteEnter x line).tokens (quoteEnter x' (line + n)).tokens)
    (TR.lockstep tt true k n spre pre) (TR.quoteOps tt true k n spre pre) (TR.quoteOps tt pp k n spre pre) codeOn (hts.chain tt true spre pre true (fun _ => rfl))
    line endLine silent hsr hsr.reads (fun hz ha => (hsr.setLine line (line + n) rfl hz ha).setParent true _ _ (fun _ => rfl))
    (fun h => (h.setBlk 0).pushRebase _ _ _ _ _ _ _ _ _) (fun next h => fun y hy => blockTokenize_sh hin mn line next y h hy) ?_
    (fun hx hy => by rw [hx.blkIndent]; exact hy.setBlk _)).toRule
  intro s2 s2' s4 s4' hsr2 hsr4
  obtain ⟨ts2, a2, b2⟩ := hsr2.tokens
  obtain ⟨ts4, a4, b4⟩ := hsr4.tokens
  refine ⟨hsr4.lines, hsr4.len, hsr4.notab, hsr4.line, hsr.lineMax, hsr4.blkIndent, ?_, hsr4.listIndent, hsr4.tight, hsr.parent, ?_⟩
  · exact (hsr4.pushRebase "blockquote_close" "blockquote" (-1) none none none "" ">" "").level
  · obtain ⟨e1, e2⟩ := container_tokens k n a2 b2 a4 b4
      (shift2_pushed k n s4 s4' hsr4.level "blockquote_close" "blockquote" (-1) none none none "" ">" "" rfl)
      (setMap_pushed_shift k n { s2 with blkIndent := 0 } { s2' with blkIndent := 0 } hsr2.level "blockquote_open" "blockquote" 1
        (some (line, 0)) (some (line + n, 0)) (some (line, s4.line)) (some (line + n, s4'.line)) none "" ">" "" (shiftM_some rfl hsr4.line))
    exact ⟨_, e1, e2⟩

theorem qTerminators_shs (k : Int) (n : Nat) (c : MiniCfg) (ws : List Nat) (mn : Int) :
    ShSims k n (qTerminators c ws mn) (qTerminators c ws (mn + k)) := by
  unfold qTerminators
  exact (((ShSims.opt c.fence (sh_fence k n c.code)).append (.cons (sh_quote k n c.code .nil .nil mn) .nil)).append
    (ShSims.opt c.hr (sh_hr k n c.code))).append (ShSims.opt c.heading (sh_heading k n c.code ws))

theorem qChain_shs (k : Int) (n : Nat) (c : MiniCfg) (ws : List Nat) (mn : Int) : ∀ d : Nat,
    ShSims k n (qChain c ws mn d) (qChain c ws (mn + k) d) := by
  intro d
  induction d with
  | zero => exact .nil
  | succ d ih =>
    unfold qChain
    exact (((((ShSims.opt c.code (sh_code k n c.code)).append (ShSims.opt c.fence (sh_fence k n c.code))).append
      (.cons (sh_quote k n c.code (qTerminators_shs k n c ws mn) ih mn) .nil)).append (ShSims.opt c.hr (sh_hr k n c.code))).append
      (ShSims.opt c.heading (sh_heading k n c.code ws))).append (.cons (sh_paragraph k n (qTerminators_shs k n c ws mn) ws) .nil)

theorem blockLoop_fuel (rules : List BRule) (mn : Int) (endLine : Nat) : ∀ (f line : Nat) (he : Bool) (s t : BState),
    blockLoop rules mn endLine f line he s = .ok t → ∀ f', f ≤ f' → blockLoop rules mn endLine f' line he s = .ok t := by
  suffices h : ∀ (f f' line : Nat) (he : Bool) (s : BState), f ≤ f' →
      Fwd Eq (blockLoop rules mn endLine f line he s) (blockLoop rules mn endLine f' line he s) from
    fun f line he s t ht f' hf => by obtain ⟨_, h', rfl⟩ := h f f' line he s hf t ht; exact h'
  intro f
  induction f with
  | zero =>
    intro f' line he s _
    cases f' with
    | zero => exact fun t ht => ⟨t, ht, rfl⟩
    | succ m =>
      simp only [blockLoop]
      exact Fwd.ite Iff.rfl (fun _ => Fwd.error) (fun _ => Fwd.ok rfl)
  | succ m ih =>
    intro f' line he s hf
    cases f' with
    | zero => omega
    | succ m' =>
      unfold blockLoop
      refine Fwd.ite Iff.rfl (fun _ => ?_) (fun _ => Fwd.ok rfl)
      generalize skipEmptyLines s (s.lineMax + 1) line = line1
      refine Fwd.ite Iff.rfl (fun _ => Fwd.ok rfl) (fun _ => ?_)
      cases s.lines[line1]? with
      | none => exact Fwd.error
      | some l =>
        refine Fwd.ite Iff.rfl (fun _ => Fwd.ok rfl) (fun _ => ?_)
        refine Fwd.ite Iff.rfl (fun _ => Fwd.ok rfl) (fun _ => ?_)
        cases runBlockChain rules { s with line := line1 } line1 endLine with
        | error e => exact Fwd.error
        | ok v =>
          obtain ⟨b, s2⟩ := v
          refine Fwd.ite Iff.rfl (fun _ => Fwd.error) (fun _ => ?_)
          cases (if (s2.line : Int) - 1 < ↑endLine then ({ s2 with tight := !he } : BState).isEmpty (↑s2.line - 1) else Except.ok false) with
          | error e => exact Fwd.error
          | ok e1 =>
            refine Fwd.ite Iff.rfl (fun _ => ?_) (fun _ => ih _ _ _ _ (by omega))
            cases ({ s2 with tight := !he } : BState).isEmpty ↑s2.line with
            | error e => exact Fwd.error
            | ok e2 => exact Fwd.ite Iff.rfl (fun _ => ih _ _ _ _ (by omega)) (fun _ => ih _ _ _ _ (by omega))

/-- the state of a parse whose top-level loop stands at the first line of `B`: `n` earlier lines of any content, any tokens so
    far, any `tight` / `parentType`; the frame fields are those of the top level (`C07.frame`: the loop restores them after every block) -/
structure AtSeam (n : Nat) (lsB : List (List Char)) (s' : BState) : Prop where
  lines : s'.lines.drop n = (stD lsB).lines
  len : s'.lines.length = lsB.length + 1 + n
  line : s'.line = n
  lineMax : s'.lineMax = lsB.length + n
  blkIndent : s'.blkIndent = 0
  level : s'.level = 0
  listIndent : s'.listIndent = -1

@[simp] theorem shift2_level0 (n : Nat) (t : Tok) : (t.shift2 0 n).level = t.level := by cases t; simp [Tok.shift2, Tok.level]
@[simp] theorem shift2_type (k : Int) (n : Nat) (t : Tok) : (t.shift2 k n).type = t.type := by cases t; rfl
@[simp] theorem shift2_map (k : Int) (n : Nat) (t : Tok) : (t.shift2 k n).map = shiftM n t.map := by cases t; rfl

theorem shiftM_zero (m : Option (Nat × Nat)) : shiftM 0 m = m := by
  cases m with
  | none => rfl
  | some p => cases p; rfl

theorem shift2_zero (k : Int) : Tok.shift2 k 0 = Tok.shift k := by
  funext t; cases t; simp [Tok.shift2, Tok.shift, shiftM_zero]

theorem TR.ofSR {k pre s s'} (h : SR k pre s s') : TR true false k 0 [] pre s s' :=
  ⟨h.lines, h.lines.length, h.notab, h.line, h.lineMax, h.blkIndent, h.level, h.listIndent, fun _ => h.tight, nofun,
    s.tokens, rfl, by rw [h.tokens, shift2_zero]⟩

theorem TR.toSR {pp k pre s s'} (h : TR true pp k 0 [] pre s s') : SR k pre s s' := by
  obtain ⟨ts, a, b⟩ := h.tokens
  exact ⟨h.lines, h.notab, h.line, h.lineMax, h.blkIndent, h.level, h.tight rfl, h.listIndent, by rw [b, a, shift2_zero]; rfl⟩

theorem ShSims.nested {k} {inner inner' : List BRule} (hs : ShSims k 0 inner inner') (mn : Int) : NestedSim k inner inner' mn :=
  fun a b t hsr h => (blockTokenize_sh hs mn a b t (TR.ofSR hsr) h).imp fun _ h => ⟨h.1, h.2.toSR⟩

theorem suffix_shift_of {chain : List BRule} {n : Nat} (hsh : ShSims 0 n chain chain) (mn : Int) (lsB : List (List Char)) (hne : lsB ≠ [])
    (hcl : ∀ l ∈ lsB, Clean l) (s' : BState) (hs : AtSeam n lsB s') (tsB : List Tok) (hB : parseWith chain mn (srcOf lsB) = .ok tsB)
    (f : Nat) (hf : lsB.length + 1 ≤ f) (he : Bool) :
    ∃ t', blockLoop chain mn (lsB.length + n) f n he s' = .ok t' ∧ t'.tokens = s'.tokens ++ tsB.map (Tok.shift2 0 n) := by
  obtain ⟨tD, hrun, rfl⟩ := (parseWith_srcOf hne hcl).1 hB
  have htr : TR false false 0 n [] s'.tokens (stD lsB) s' := by
    refine ⟨?_, ?_, stD_notab _ hcl, ?_, ?_, hs.blkIndent, ?_, hs.listIndent, (fun h => by cases h), (fun h => by cases h), ⟨[], rfl, by simp⟩⟩
    · rw [hs.lines]; rfl
    · rw [hs.len, stD_len]
    · rw [hs.line]; show n = 0 + n; omega
    · rw [hs.lineMax]; rfl
    · rw [hs.level]; rfl
  unfold blockTokenize at hrun
  obtain ⟨t', hrun', htr'⟩ := blockLoop_sh hsh mn lsB.length _ 0 false he tD htr (fun h => by cases h) hrun
  rw [Int.add_zero, Nat.zero_add] at hrun'
  refine ⟨t', blockLoop_fuel _ _ _ _ _ _ _ _ hrun' f (by omega), ?_⟩
  obtain ⟨ts, a1, a2⟩ := htr'.tokens
  rw [List.nil_append] at a1
  rw [a2, a1]

theorem concat_law_of {chain : List BRule} {lsA : List (List Char)} (hsh : ShSims 0 lsA.length chain chain) (mn : Int) (lsB : List (List Char))
    (hne : lsB ≠ []) (hclA : ∀ l ∈ lsA, Clean l) (hclB : ∀ l ∈ lsB, Clean l) (tsB : List Tok) (hB : parseWith chain mn (srcOf lsB) = .ok tsB)
    (f : Nat) (he : Bool) (sM : BState) (hf : lsB.length + 1 ≤ f) (hM : AtSeam lsA.length lsB sM)
    (hseam : blockLoop chain mn (lsA ++ lsB).length ((lsA ++ lsB).length - 0 + 1) 0 false (stD (lsA ++ lsB))
      = blockLoop chain mn (lsA ++ lsB).length f lsA.length he sM) :
    parseWith chain mn (srcOf (lsA ++ lsB)) = .ok (sM.tokens ++ tsB.map (Tok.shift2 0 lsA.length)) := by
  obtain ⟨t', hrun, htok⟩ := suffix_shift_of hsh mn lsB hne hclB sM hM tsB hB f hf he
  refine (parseWith_srcOf (fun h => hne (List.append_eq_nil_iff.1 h).2) fun l hl => (List.mem_append.1 hl).elim (hclA l) (hclB l)).2 ⟨t', ?_, htok⟩
  unfold blockTokenize
  rw [hseam, show (lsA ++ lsB).length = lsB.length + lsA.length by simp; omega, hrun]

/-- **C07.suffix_shift** — for every document `B` given by its lines (no tab, CR, NUL, LF inside a line; at least one line), every
subset of `code`, `fence`, `hr`, `heading`, every `maxNesting`: once the top-level loop of a parse (chains of the sub-parser with
block quotes) stands at the first line of `B`, `n` lines into the table — whatever those `n` lines contain, whatever tokens,
`tight`, `parentType` and `hasEmptyLines` the blocks before left behind, with any sufficient fuel — it returns, and what it appends
is exactly the token stream of `B` parsed on its own, every map shifted by `n`. -/
theorem suffix_shift (c : MiniCfg) (ws : List Nat) (mn : Int) (lsB : List (List Char)) (hne : lsB ≠ []) (hcl : ∀ l ∈ lsB, Clean l)
    (n : Nat) (s' : BState) (hs : AtSeam n lsB s') (tsB : List Tok) (hB : qParse c ws mn (srcOf lsB) = .ok tsB)
    (f : Nat) (hf : lsB.length + 1 ≤ f) (he : Bool) :
    ∃ t', blockLoop (qChain c ws mn (mn.toNat + 1)) mn (lsB.length + n) f n he s' = .ok t'
      ∧ t'.tokens = s'.tokens ++ tsB.map (Tok.shift2 0 n) :=
  suffix_shift_of (by simpa using qChain_shs 0 n c ws mn (mn.toNat + 1)) mn lsB hne hcl s' hs tsB hB f hf he

/-- the same for a whole document `A ++ B`: if the top-level loop of its parse comes to stand at the first line of `B` (`hseam`: an
iteration of the loop starts there — "A ends closed, B begins a new top-level block"), the stream of the document is what the
loop had produced by then followed by the stream of `B` alone, maps shifted by the number of lines of `A` -/
theorem concat_law (c : MiniCfg) (ws : List Nat) (mn : Int) (lsA lsB : List (List Char)) (hne : lsB ≠ [])
    (hclA : ∀ l ∈ lsA, Clean l) (hclB : ∀ l ∈ lsB, Clean l) (tsB : List Tok) (hB : qParse c ws mn (srcOf lsB) = .ok tsB)
    (f : Nat) (he : Bool) (sM : BState) (hf : lsB.length + 1 ≤ f) (hM : AtSeam lsA.length lsB sM)
    (hseam : blockLoop (qChain c ws mn (mn.toNat + 1)) mn (lsA ++ lsB).length ((lsA ++ lsB).length - 0 + 1) 0 false (stD (lsA ++ lsB))
      = blockLoop (qChain c ws mn (mn.toNat + 1)) mn (lsA ++ lsB).length f lsA.length he sM) :
    qParse c ws mn (srcOf (lsA ++ lsB)) = .ok (sM.tokens ++ tsB.map (Tok.shift2 0 lsA.length)) :=
  concat_law_of (by simpa using qChain_shs 0 lsA.length c ws mn (mn.toNat + 1)) mn lsB hne hclA hclB tsB hB f he sM hf hM hseam

def demoB : List (List Char) := ["para".toList, "> q".toList, "".toList, "***".toList]

def demoSeam : BState :=
  { (stD (["# h".toList, "".toList] ++ demoB)) with line := 2, tight := true, parentType := "paragraph", tokens := [quoteClose] }

example : AtSeam 2 demoB demoSeam := by
  refine ⟨by decide +kernel, by decide +kernel, rfl, by decide +kernel, rfl, rfl, rfl⟩

example : demoB ≠ [] ∧ (∀ l ∈ demoB, Clean l) := by
  refine ⟨by decide +kernel, ?_⟩
  intro l hl
  simp only [demoB, List.mem_cons, List.not_mem_nil, or_false] at hl
  rcases hl with rfl | rfl | rfl | rfl <;> (unfold Clean; decide +kernel)

def shape (r : Except PyErr (List Tok)) : Option (List (String × Option (Nat × Nat) × Int)) :=
  match r with
  | .ok ts => some (ts.map (fun t => (t.type, t.map, t.level)))
  | .error _ => none

example : shape (qParse ⟨true, true, true, true⟩ [32, 9, 10] 20 (srcOf (["# h".toList, "".toList] ++ demoB)))
    = (do let a ← shape (qParse ⟨true, true, true, true⟩ [32, 9, 10] 20 (srcOf ["# h".toList, "".toList]))
          let b ← shape ((qParse ⟨true, true, true, true⟩ [32, 9, 10] 20 (srcOf demoB)).map (List.map (Tok.shift2 0 2)))
          pure (a ++ b)) := by decide +kernel

end MdIt.C07
