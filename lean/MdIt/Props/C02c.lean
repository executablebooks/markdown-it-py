import MdIt.Props.C02b
import MdIt.Props.C01c
/-!
# C02 (continued) — the sub-parser with block quotes: well-nested, levelled, tree-constructible streams

The quote rule's segment is `open ++ (segments of the nested run) ++ close` (`C01.QuoteRun`, from `quote_shape`).  A segment predicate passes through
the container when it is preserved by that wrapping (`QuoteWrap`); `tower_seg` carries the segment contract through every depth
budget of a family of chains.  Instance here: `WellSegS` (levelled from 0, balanced, `SyntaxTreeNode` builds).
-/
namespace MdIt.C02
open MdIt.C01

structure QuoteWrap (S : BState → List Tok → Prop) : Prop where
  closed : FrameClosedS S
  wrap : ∀ (s s3 s4 : BState) (line : Nat) (openT closeT : Tok) (segs : List (List Tok)),
      s3.level = s.level + 1 → s3.FrameEq s4 → openT.nesting = 1 → openT.level = s.level → openT.type = "blockquote_open" →
      closeT.nesting = -1 → closeT.level = s4.level - 1 → closeT.type = "blockquote_close" → SufLines s.lines s3.lines →
      (∀ g ∈ segs, S s3 g) → S s ([openT.setMap (some (line, s4.line))] ++ segs.flatten ++ [closeT])

def InnerSegs (S : BState → List Tok → Prop) (mn : Int) (d : Nat) (inner : List BRule) : Prop :=
  ∀ (s : BState) (startLine endLine : Nat) (s' : BState), s.lineMax + 1 ≤ s.lines.length → endLine ≤ s.lineMax → Lv mn d s endLine →
    blockTokenize inner mn s startLine endLine = .ok s' →
    ∃ segs : List (List Tok), s'.tokens = s.tokens ++ segs.flatten ∧ ∀ g ∈ segs, S s g

/-- `InnerSegs` at `qChain … d` -/
def InnerSeg (S : BState → List Tok → Prop) (c : MiniCfg) (ws : List Nat) (mn : Int) (d : Nat) : Prop :=
  ∀ (s : BState) (startLine endLine : Nat) (s' : BState), s.lineMax + 1 ≤ s.lines.length → endLine ≤ s.lineMax → Lv mn d s endLine →
    blockTokenize (qChain c ws mn d) mn s startLine endLine = .ok s' →
    ∃ segs : List (List Tok), s'.tokens = s.tokens ++ segs.flatten ∧ ∀ g ∈ segs, S s g

theorem innerSegs_of_chain (S : BState → List Tok → Prop) (hS : FrameClosedS S) (mn : Int) (d : Nat) (rules : List BRule)
    (hok : ∀ r ∈ rules, RuleOK (Lv mn d) r) (hseg : ∀ r ∈ rules, SegOK (Lv mn d) S r) : InnerSegs S mn d rules :=
  fun s startLine endLine s' hlen hend hlv hrun =>
    loop_segs (Lv mn d) (lv_closed mn d) S hS rules hok hseg mn endLine _ startLine false s s' hlen hend hlv hrun

theorem segOK_blockquote (S : BState → List Tok → Prop) (hw : QuoteWrap S) (mn : Int) (d : Nat) (codeOn : Bool) (terms : List BRule)
    (hin : ∀ t ∈ terms, SilentInert t) (inner : List BRule) (hinner : InnerOK mn d inner) (hsegs : InnerSegs S mn d inner) :
    SegOK (Lv mn (d + 1)) S (ruleBlockquote codeOn terms inner mn) := by
  have key := quote_shape mn d codeOn terms hin inner hinner
  refine ⟨fun s line endLine s' hc h => ?_, fun s line endLine s' hc h => by rw [miss_of_cases (key s line endLine hc) h]⟩
  obtain ⟨_, _, _, s3, s4, next, openT, closeT, hl3, hlen3, hend3, hLv3, hrun, hfr4, htok, ho1, ho2, ho3, hc1, hc2, hc3, _, _, hsuf⟩ :=
    hit_of_cases (key s line endLine hc) h
  obtain ⟨segs, hs4, hS⟩ := hsegs s3 line next s4 hlen3 hend3 hLv3 hrun
  exact ⟨_, htok _ hs4, hw.wrap s s3 s4 line openT closeT segs hl3 hfr4 ho1 ho2 ho3 hc1 hc2 hc3 hsuf hS⟩

/-- `hok`: the family meets K1–K4 (`tower_ok`); `hl`: the segment contract of the list rule over any chain (`segOK_list` in `C02d`),
    which a family without lists does not need -/
theorem tower_seg {mn : Int} {leaves : List BRule} {lst : Bool} {ch : Nat → List BRule} (T : Tower mn leaves lst ch)
    (hok : ∀ d : Nat, (∀ r ∈ ch d, RuleOK (Lv mn d) r) ∧ InnerOK mn d (ch d)) (S : BState → List Tok → Prop) (hw : QuoteWrap S)
    (hl : lst = true → ∀ d codeOn terms, (∀ t ∈ terms, SilentInert t) → ∀ inner, InnerOK mn d inner → InnerSegs S mn d inner →
      SegOK (Lv mn (d + 1)) S (ruleList codeOn terms inner mn))
    (hleaf : ∀ (P : BState → Nat → Prop), ∀ r ∈ leaves, SegOK P S r) : ∀ d : Nat,
    (∀ r ∈ ch d, SegOK (Lv mn d) S r) ∧ InnerSegs S mn d (ch d) :=
  T.induct (fun d h => innerSegs_of_chain S hw.closed mn d _ (hok d).1 h) (fun _ => hleaf _)
    (fun d codeOn terms hin hi => segOK_blockquote S hw mn d codeOn terms hin _ (hok d).2 hi)
    (fun h d codeOn terms hin hi => hl h d codeOn terms hin _ (hok d).2 hi)

theorem qChain_seg (S : BState → List Tok → Prop) (hw : QuoteWrap S) (c : MiniCfg) (ws : List Nat) (mn : Int)
    (hleaf : ∀ (P : BState → Nat → Prop), ∀ r ∈ qLeaves c ws mn, SegOK P S r) : ∀ d : Nat,
    (∀ r ∈ qChain c ws mn d, SegOK (Lv mn d) S r) ∧ InnerSeg S c ws mn d :=
  tower_seg (qTower c ws mn) (qChain_ok c ws mn) S hw nofun hleaf

theorem parse_segs (S : BState → List Tok → Prop) (mn : Int) (chain : List BRule) (hsegs : InnerSegs S mn (mn.toNat + 1) chain)
    (src : List Char) (st : BState) (h : blockParse chain mn src = .ok st) :
    ∃ segs : List (List Tok), st.tokens = segs.flatten ∧ ∀ g ∈ segs, S (initBState (normalize src)) g :=
  blockParse_ind (fun st => ∃ segs : List (List Tok), st.tokens = segs.flatten ∧ ∀ g ∈ segs, S (initBState (normalize src)) g) h
    ⟨[], rfl, by simp⟩ fun s' hs' => hsegs _ 0 _ s' (initBState_len _) (Nat.le_refl _) (lv_top mn _ _) hs'

theorem qParse_segs (S : BState → List Tok → Prop) (hw : QuoteWrap S) (c : MiniCfg) (ws : List Nat) (mn : Int)
    (hleaf : ∀ (P : BState → Nat → Prop), ∀ r ∈ qLeaves c ws mn, SegOK P S r) (src : List Char) (ts : List Tok)
    (h : qParse c ws mn src = .ok ts) :
    ∃ segs : List (List Tok), ts = segs.flatten ∧ ∀ g ∈ segs, S (initBState (normalize src)) g := by
  obtain ⟨st, hst, rfl⟩ := parseWith_state h
  exact parse_segs S mn _ (qChain_seg S hw c ws mn hleaf _).2 src st hst

@[simp] theorem setMap_nesting (t : Tok) (m) : (t.setMap m).nesting = t.nesting := t.setMap_nesting m
@[simp] theorem setMap_level (t : Tok) (m) : (t.setMap m).level = t.level := t.setMap_level m
@[simp] theorem setMap_type (t : Tok) (m) : (t.setMap m).type = t.type := t.setMap_type m

/-! A token-wise segment predicate `Toks Q` passes through a container when `Q` survives a table with longer lines and holds of the
wrapper tokens (`listWrap_tokens` in `C02d`: and ignores `hidden`). -/

theorem quoteWrap_tokens (Q : List BLine → Tok → Prop) (hsuf : ∀ a b t, SufLines a b → Q b t → Q a t)
    (hwrap : ∀ lines (t : Tok), t.type = "blockquote_open" ∨ t.type = "blockquote_close" → Q lines t) :
    QuoteWrap (Toks Q) := by
  refine ⟨toks_closed Q, ?_⟩
  intro s s3 s4 line openT closeT segs _ _ _ _ ho3 _ _ hc3 hs hS t ht
  simp only [List.mem_append, List.mem_singleton, List.mem_flatten] at ht
  rcases ht with (rfl | ⟨g, hg, htg⟩) | rfl
  · exact hwrap _ _ (.inl (by rw [setMap_type]; exact ho3))
  · exact hsuf _ _ _ hs (hS g hg t htg)
  · exact hwrap _ _ (.inr hc3)

theorem balancedFrom_wrap (o c : Tok) (mid : List Tok) (ho : o.nesting = 1) (hc : c.nesting = -1) (hm : balancedFrom 0 mid = true) :
    balancedFrom 0 ([o] ++ mid ++ [c]) = true := by
  simp only [List.cons_append, List.nil_append, balancedFrom, ho]
  have := balancedFrom_append mid [c] 1 0 hm (by decide)
  simp only [Int.add_zero] at this
  simp only [Int.zero_add]
  rw [this]
  simp [balancedFrom, hc]

theorem wellSeg_wrap (lvl : Int) (o c : Tok) (mid : List Tok) (ho1 : o.nesting = 1) (ho2 : o.level = lvl) (hc1 : c.nesting = -1)
    (hc2 : c.level = lvl) (hmid : WellSeg (lvl + 1) mid) : WellSeg lvl ([o] ++ mid ++ [c]) := by
  have hd : depthAfter lvl [o] = lvl + 1 := by simp [depthAfter, ho1]
  have hd2 : depthAfter lvl ([o] ++ mid) = lvl + 1 := by rw [depthAfter_append, hd]; exact hmid.2.1
  refine ⟨?_, ?_, balancedFrom_wrap _ _ _ ho1 hc1 hmid.2.2⟩
  · rw [levelsOK_append, levelsOK_append, hd, hd2]
    exact ⟨⟨by simp [levelsOK, ho1, ho2], hmid.1⟩, by simp [levelsOK, hc1, hc2]⟩
  · rw [depthAfter_append, hd2]; simp [depthAfter, hc1]

theorem wellSegS_wrap : QuoteWrap WellSegS := by
  refine ⟨wellSegS_closed, ?_⟩
  intro s s3 s4 line openT closeT segs hl3 hfr ho1 ho2 _ hc1 hc2 _ _ hS
  have hmid : WellSeg (s.level + 1) segs.flatten := by
    have := wellSegs_flatten s3.level segs (fun g hg => hS g hg)
    rw [hl3] at this; exact this
  have hc2' : closeT.level = s.level := by rw [hc2, hfr.level, hl3]; omega
  exact wellSeg_wrap s.level _ _ _ (by simp [ho1]) (by simp [ho2]) hc1 hc2' hmid

/-- **C02.q_wellformed** — with block quotes nested to any depth: for every source, rule subset and `maxNesting`, the
block stream is levelled from 0, ends at depth 0, is balanced, and `SyntaxTreeNode(tokens)` builds -/
theorem q_wellformed (c : MiniCfg) (ws : List Nat) (maxNesting : Int) (src : List Char) (ts : List Tok)
    (h : qParse c ws maxNesting src = .ok ts) :
    levelsOK 0 ts ∧ depthAfter 0 ts = 0 ∧ balancedFrom 0 ts = true ∧ ∃ f, buildTree ts = .ok f := by
  obtain ⟨segs, hts, hS⟩ := qParse_segs WellSegS wellSegS_wrap c ws maxNesting
    (wellSeg_leaves · c (inertE_of_inert (qTerminators_inert c ws maxNesting)) ws) src ts h
  exact wellformed_of_segs rfl hts hS

end MdIt.C02
