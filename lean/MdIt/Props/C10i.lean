import MdIt.Props.C10h
import MdIt.Props.C02e
/-!
# C10 (continued) — conservative extension: the rules with a second-chain part

An invariant of the delimiter records (`DInv Q`: every record, wherever it lives, satisfies `Q`) is carried through every rule: a rule
that only pushes keeps it if the records of its own steps satisfy `Q`, and for `link` / `image` it is an invariant of the walk of
`Proofs/LinkWalk` (the pushes move lists between the three places).  `strikethrough` is inert on a source without `~~`, and its
post-processing is the identity when no list holds a tilde record.
-/
namespace MdIt.C10
open MdIt.C01

/-- the three places delimiter records live: the current list, the lists of the enclosing scopes, the lists of the closed scopes -/
structure DInv (Q : Delim → Prop) (s : IState) : Prop where
  cur : ∀ d ∈ s.delimiters, Q d
  scopes : ∀ l ∈ s.scopes, ∀ d ∈ l, Q d
  metas : ∀ p ∈ s.metas, ∀ d ∈ p.2, Q d

def DEq (s s' : IState) : Prop := s'.delimiters = s.delimiters ∧ s'.scopes = s.scopes ∧ s'.metas = s.metas

theorem DInv.of_eq {Q : Delim → Prop} {s s' : IState} (h : DEq s s') (hj : DInv Q s) : DInv Q s' :=
  ⟨by rw [h.1]; exact hj.cur, by rw [h.2.1]; exact hj.scopes, by rw [h.2.2]; exact hj.metas⟩

theorem push_deq (s : IState) (ty tag : String) (n : Int) (c m i : String) : DEq s (s.push ty tag n c m i) := by
  rw [push_eq]; exact ⟨rfl, rfl, rfl⟩
theorem pushPending_deq (s : IState) : DEq s s.pushPending := ⟨rfl, rfl, rfl⟩
theorem DEq.refl (s : IState) : DEq s s := ⟨rfl, rfl, rfl⟩
theorem DEq.trans {a b c : IState} (h1 : DEq a b) (h2 : DEq b c) : DEq a c := ⟨h2.1.trans h1.1, h2.2.1.trans h1.2.1, h2.2.2.trans h1.2.2⟩

theorem keepsI_of_leaf {Q : Delim → Prop} {T r} (h : Leaf T r) (hT : ∀ s op, T s op → ∀ dr, op.delim = some dr → ∀ tok, Q (dr.at tok)) :
    KeepsI (DInv Q) r := by
  intro s silent hj a hr
  obtain ⟨ops, pre, d⟩ := h.did hr
  refine ⟨fun x hx => ?_, by rw [d.app.scopes]; exact hj.scopes, by rw [d.app.metas]; exact hj.metas⟩
  rw [d.app.delimiters, List.mem_append] at hx
  rcases hx with hx | hx
  · exact hj.cur x hx
  · obtain ⟨j, op, dr, hop, hdr, rfl⟩ := mem_opRecs hx
    exact hT s op (d.steps op (List.mem_of_getElem? hop)) dr hdr _

theorem keepsI_of_norec {Q : Delim → Prop} {T r} (h : Leaf T r) (hT : ∀ s op, T s op → op.delim = none) : KeepsI (DInv Q) r :=
  keepsI_of_leaf h fun s op ht _ hd => by rw [hT s op ht] at hd; cases hd

theorem keepsI_emphasis {Q : Delim → Prop} (cls : QCls)
    (hQ : ∀ (m : Char), (m == '_' || m == '*') = true → ∀ len tok o c, Q { marker := m.toNat, length := len, token := tok, end_ := -1, open_ := o, close := c }) :
    KeepsI (DInv Q) (ruleEmphasis cls) :=
  keepsI_of_leaf (leaf_emphasis cls) fun _ _ ⟨m, cnt, o, c, hm, e⟩ dr hdr tok => by subst e; cases hdr; exact hQ m hm cnt tok o c

theorem keepsI_strike {Q : Delim → Prop} (cls : QCls)
    (hQ : ∀ tok o c, Q { marker := 0x7E, length := 0, token := tok, end_ := -1, open_ := o, close := c }) :
    KeepsI (DInv Q) (ruleStrike cls) :=
  keepsI_of_leaf (leaf_strike cls) fun _ _ h dr hdr tok => by
    rcases h with rfl | ⟨o, c, rfl⟩
    · cases hdr
    · cases hdr; exact hQ tok o c

theorem dinv_deq {Q : Delim → Prop} : ∀ s s', DEq s s' → DInv Q s → DInv Q s' := fun _ _ h hj => DInv.of_eq h hj

theorem pushOpen_dinv {Q : Delim → Prop} (s : IState) (ty tag : String) (a : List (String × AttrVal)) (md : List (String × String)) (hj : DInv Q s) :
    DInv Q (s.pushOpen ty tag a md) := by
  rw [pushOpen_eq]
  exact ⟨nofun, fun l hl => (List.mem_cons.1 hl).elim (fun e => e ▸ hj.cur) (hj.scopes l), hj.metas⟩

theorem pushClose_dinv {Q : Delim → Prop} (s : IState) (ty tag : String) (hj : DInv Q s) : OKI id (DInv Q) (s.pushClose ty tag) := by
  rw [pushClose_eq]
  split
  · rename_i outer rest i is hsc _
    exact oki_ok _ _ _ ⟨hj.scopes outer (hsc ▸ List.mem_cons_self), fun l hl => hj.scopes l (hsc ▸ List.mem_cons_of_mem _ hl),
      fun p hp => (List.mem_cons.1 hp).elim (fun e => e ▸ hj.cur) (hj.metas p)⟩
  · exact oki_error _ _ _

theorem pushImage_deq (s : IState) (a : List (String × AttrVal)) (ch : Option (List Tok)) (co : String) (md : List (String × String)) :
    DEq s (s.pushImage a ch co md) := by
  rw [pushImage_eq]; exact ⟨rfl, rfl, rfl⟩

theorem imageEmit_deq {lx : LExt} {parse : List Char → Except PyErr (List Tok)} {s s3 : IState} {ls le : Nat} {href title label : List Char}
    (h : imageEmit lx parse s ls le href title label = .ok s3) : DEq s s3 := by
  unfold imageEmit at h
  dsimp only at h
  split at h
  · cases h
  · cases h; exact pushImage_deq s _ _ _ _

section rules
variable {rs : List IRule} {Q : Delim → Prop} (hrs : ∀ r ∈ rs, KeepsI (DInv Q) r)
include hrs

theorem skipInv_dinv (mn : Int) : SkipInv rs rs mn (DInv Q) :=
  .of_rules (fun _ _ _ _ h => ⟨h.cur, h.scopes, h.metas⟩) (fun r hr x m x' hx h => hrs r hr x true hx (m, x') h)

theorem keepsI_link (ext : IExt) (lx : LExt) (mn : Int) : KeepsI (DInv Q) (ruleLink ext lx mn rs) := by
  rw [ruleLink_eq]
  intro s silent hj ⟨m, s'⟩ h
  have hR : ∀ e, RunInv rs rs e (DInv Q) := fun e => .of_rules (fun _ _ h => ⟨h.cur, h.scopes, h.metas⟩)
    (fun x h => .of_eq (pushPending_deq x) h) (fun r hr x m x' hx h => hrs r hr x false hx (m, x') h)
  refine (bracket_keeps (Ps := DInv Q) (Pl := DInv Q) h (fun _ h => h) hj (linkFind_same (skipInv_dinv hrs mn) ext lx s hj).2
    (fun _ _ _ h => ⟨h.cur, h.scopes, h.metas⟩) (fun s2 f _ h2 => ?_)).1
  -- the opening push starts a scope with the current list, the closing push files the scope's list under `metas`
  have h1 := pushOpen_dinv (Q := Q) { s2 with pos := s.pos + 1, posMax := f.labelEnd } "link_open" "a" (linkAttrs f.href f.title)
    (labelMeta lx f.label) ⟨h2.cur, h2.scopes, h2.metas⟩
  have hopen : DInv Q (linkOpened lx s2 (s.pos + 1) f.labelEnd f.href f.title f.label) := ⟨h1.cur, h1.scopes, h1.metas⟩
  have hclose : ∀ x s3, DInv Q x → ({ x with linkLevel := x.linkLevel - 1 } : IState).pushClose "link_close" "a" = .ok s3 →
      DInv Q { s3 with pos := f.pos, posMax := s.posMax } := fun x s3 hx h3 =>
    have h4 : DInv Q s3 := pushClose_dinv { x with linkLevel := x.linkLevel - 1 } _ _ ⟨hx.cur, hx.scopes, hx.metas⟩ s3 h3
    ⟨h4.cur, h4.scopes, h4.metas⟩
  exact (linkEmit_same lx mn s2 (s.pos + 1) f.labelEnd f.href f.title f.label (hR _) hopen hclose).2

theorem keepsI_image (ext : IExt) (lx : LExt) (mn : Int) (parse) : KeepsI (DInv Q) (ruleImage ext lx mn rs parse) := by
  rw [ruleImage_eq]
  intro s silent hj ⟨m, s'⟩ h
  refine (bracket_keeps (Ps := DInv Q) (Pl := DInv Q) h (fun _ h => h) hj (imageFind_same (skipInv_dinv hrs mn) ext lx s hj).2
    (fun _ _ _ h => ⟨h.cur, h.scopes, h.metas⟩) (fun s2 f _ h2 s3 h3 => ?_)).1
  have h4 := DInv.of_eq (imageEmit_deq h3) h2
  exact ⟨h4.cur, h4.scopes, h4.metas⟩

end rules

/-- no two tildes in a row anywhere in `S`: `strikethrough` never sees its trigger `~~` -/
def NoPair (S : List Char) : Prop := ¬ (['~', '~'] <:+: S)

theorem NoPair.sub {S c : List Char} (h : NoPair S) (hc : c <:+: S) : NoPair c := fun hp => h (hp.trans hc)

theorem next_ne_tilde {S : List Char} (h : NoPair S) (pos : Nat) (h0 : S[pos]? = some '~') : S[pos + 1]? ≠ some '~' := by
  intro h1
  apply h
  obtain ⟨hl0, e0⟩ := List.getElem?_eq_some_iff.1 h0
  obtain ⟨hl1, e1⟩ := List.getElem?_eq_some_iff.1 h1
  refine ⟨S.take pos, S.drop (pos + 2), ?_⟩
  have d0 : S.drop pos = S[pos] :: S.drop (pos + 1) := (List.drop_eq_getElem_cons hl0)
  have d1 : S.drop (pos + 1) = S[pos + 1] :: S.drop (pos + 1 + 1) := (List.drop_eq_getElem_cons hl1)
  calc S.take pos ++ ['~', '~'] ++ S.drop (pos + 2)
      = S.take pos ++ (S[pos] :: S[pos + 1] :: S.drop (pos + 1 + 1)) := by rw [e0, e1]; simp
    _ = S.take pos ++ S.drop pos := by rw [d0, d1]
    _ = S := List.take_append_drop pos S

theorem markerRun_one (S : List Char) (max pos : Nat) (hlt : pos < max) (h0 : S[pos]? = some '~') (h1 : S[pos + 1]? ≠ some '~') :
    ∀ fuel, 1 ≤ fuel → markerRun S '~' max fuel pos = pos + 1 := by
  intro fuel hf
  cases fuel with
  | zero => omega
  | succ n =>
    simp only [markerRun, hlt, if_true, h0, beq_self_eq_true]
    cases n with
    | zero => rfl
    | succ k =>
      simp only [markerRun]
      split
      · cases hq : S[pos + 1]? with
        | none => rfl
        | some c =>
          simp only
          have : (c == '~') = false := by
            cases hc : (c == '~') with
            | false => rfl
            | true => exact absurd (by rw [hq]; simp at hc; rw [hc]) h1
          simp [this]
      · rfl

theorem inert_strike {S : List Char} (h : NoPair S) (cls : QCls) : InertAt S (ruleStrike cls) := by
  intro s silent hc _ hs
  have hin : s.pos < s.src.length := by have := hc.1; have := hc.2; omega
  unfold ruleStrike
  rw [List.getElem?_eq_getElem hin]
  simp only
  split
  · rfl
  · split
    · rfl
    · rename_i hch
      have h0 : s.src[s.pos]? = some '~' := by
        rw [List.getElem?_eq_getElem hin]
        have : s.src[s.pos] = '~' := by simpa using hch
        rw [this]
      have h1 : s.src[s.pos + 1]? ≠ some '~' := by rw [hs]; exact next_ne_tilde h s.pos (by rw [← hs]; exact h0)
      have hm : s.src.getD s.pos ' ' = '~' := by
        rw [List.getD_eq_getElem?_getD, h0]; rfl
      have hcount : (scanDelims cls s s.pos true).2.2 = 1 := by
        simp only [scanDelims, hm, Bool.not_true, Bool.false_eq_true, if_false]
        rw [markerRun_one s.src s.posMax s.pos hc.1 h0 h1 _ (by have := hc.1; omega)]
        omega
      simp [hcount]

theorem processDelims_markers (P : Nat → Prop) (ds : List Delim) (h : ∀ d ∈ ds, P d.marker) : ∀ d ∈ processDelims ds, P d.marker := fun _ hd =>
  let ⟨d0, m0, e, _⟩ := (C02e.processDelims_shape ds).mem hd
  e ▸ h d0 m0

/-- a record that is not a strikethrough delimiter -/
def NT (d : Delim) : Prop := d.marker ≠ 0x7E

theorem strikeMark_id (ds : List Delim) (h : ∀ d ∈ ds, NT d) : ∀ (fuel i : Nat) (ts : List Tok) (lone : List Nat),
    strikeMark ds fuel i ts lone = (ts, lone) := by
  intro fuel
  induction fuel with
  | zero => intro i ts lone; rfl
  | succ n ih =>
    intro i ts lone
    simp only [strikeMark]
    split
    · rfl
    · rename_i sd hsd
      have hm : sd.marker ≠ 0x7E := h sd (List.mem_of_getElem? hsd)
      have : (sd.marker != 0x7E) = true := by simpa using hm
      simp only [this, if_true]
      exact ih _ _ _

theorem strikeGo_id (ds : List Delim) (h : ∀ d ∈ ds, NT d) (ts : List Tok) :
    strikeSwap (strikeMark ds ds.length 0 ts []).2.reverse (strikeMark ds ds.length 0 ts []).1 = ts := by
  rw [strikeMark_id ds h]
  rfl

theorem mem_insertMeta (p q : Nat × List Delim) : ∀ l : List (Nat × List Delim), q ∈ insertMeta p l → q = p ∨ q ∈ l := by
  intro l
  induction l with
  | nil => intro h; simp [insertMeta] at h; exact .inl h
  | cons x rest ih =>
    intro h
    simp only [insertMeta] at h
    split at h
    · simp only [List.mem_cons] at h
      rcases h with h | h | h
      · exact .inl h
      · exact .inr (by simp [h])
      · exact .inr (by simp [h])
    · simp only [List.mem_cons] at h
      rcases h with h | h
      · exact .inr (by simp [h])
      · rcases ih h with h' | h'
        · exact .inl h'
        · exact .inr (by simp [h'])

theorem mem_metasSorted (s : IState) (q : Nat × List Delim) (h : q ∈ metasSorted s) : q ∈ s.metas := by
  unfold metasSorted at h
  have key : ∀ l : List (Nat × List Delim), q ∈ l.foldr insertMeta [] → q ∈ l := by
    intro l
    induction l with
    | nil => intro h; simp at h
    | cons x rest ih =>
      intro h
      simp only [List.foldr_cons] at h
      rcases mem_insertMeta x q _ h with h' | h'
      · simp [h']
      · simp [ih h']
  exact key _ h

theorem strikePostL_id_nt (s : IState) (h : DInv NT s) : strikePostL s = s := by
  unfold strikePostL
  simp only
  rw [strikeGo_id s.delimiters h.cur, foldl_fixed _ _ _ fun p hp => strikeGo_id p.2 (h.metas p (mem_metasSorted s p hp)) _]

theorem balancePairsL_tokens (s : IState) : (balancePairsL s).tokens = s.tokens := rfl

theorem nt_emph : ∀ (m : Char), (m == '_' || m == '*') = true → ∀ len tok o c,
    NT { marker := m.toNat, length := len, token := tok, end_ := -1, open_ := o, close := c } := by
  intro m hm len tok o c
  unfold NT
  simp only
  intro he
  have h1 : m = '_' ∨ m = '*' := by simpa using hm
  rcases h1 with rfl | rfl <;> exact absurd he (by decide)

/-- a record that is not an emphasis delimiter -/
def NE (d : Delim) : Prop := d.marker ≠ 0x5F ∧ d.marker ≠ 0x2A

theorem emphPostGo_id (ds : List Delim) (h : ∀ d ∈ ds, NE d) : ∀ (fuel : Nat) (i : Int) (ts : List Tok), emphPostGo ds fuel i ts = ts := by
  intro fuel i ts
  have hne : ∀ {j : Nat} {sd : Delim}, ds[j]? = some sd → (sd.marker != 0x5F && sd.marker != 0x2A) = true := fun hsd => by
    obtain ⟨h1, h2⟩ := h _ (List.mem_of_getElem? hsd); simp [h1, h2]
  fun_induction emphPostGo ds fuel i ts with
  | case1 | case2 | case3 => rfl  -- the loop ends: out of fuel; `i < 0`; no record at `i`
  | case4 _ _ _ _ _ _ _ ih => exact ih  -- not an emphasis marker: the record is passed over
  -- the other branches (an unmatched record; no record at `end_`; strong; em) are behind the test for `_` / `*`
  | case5 _ _ _ _ _ hsd hm => exact absurd (hne hsd) hm
  | case6 _ _ _ _ _ hsd hm => exact absurd (hne hsd) hm
  | case7 _ _ _ _ _ hsd hm => exact absurd (hne hsd) hm
  | case8 _ _ _ _ _ hsd hm => exact absurd (hne hsd) hm

theorem emphasisPostL_id_ne (s : IState) (h : DInv NE s) : emphasisPostL s = s := by
  unfold emphasisPostL
  simp only
  rw [emphPostGo_id s.delimiters h.cur, foldl_fixed _ _ _ fun p hp => emphPostGo_id p.2 (h.metas p (mem_metasSorted s p hp)) _ _ _]

theorem inert_emphasis {S : List Char} (h1 : '*' ∉ S) (h2 : '_' ∉ S) (cls : QCls) : InertAt S (ruleEmphasis cls) := by
  intro s silent hc _ hs
  obtain ⟨hin, hne1⟩ := cur_ne hc hs _ h1
  obtain ⟨_, hne2⟩ := cur_ne hc hs _ h2
  unfold ruleEmphasis
  rw [List.getElem?_eq_getElem hin]
  simp [hne1, hne2]

/-! non-vacuity: single tildes are allowed — only `~~` is the extension's trigger -/
example : NoPair "~b~ [d](e~f)".toList ∧ ¬ NoPair "a~~".toList := by
  unfold NoPair; decide +kernel

end MdIt.C10
