import MdIt.Props.C10n
/-!
# C04 (continued) — the one attribute the table rule writes comes from a fixed set of three values

Every alignment the delimiter row yields is `""`, `left`, `right` or `center`, and a token of a table carries no attribute but a
column's alignment (`C10.table_appAll`, `TableTok`).  Hence `table_style_values`: every token a match of the table rule appends has no
attribute at all, or exactly one, `style`, whose value is `text-align:left`, `text-align:right` or `text-align:center` — nothing of the
input text can reach an attribute name or value of a table token (the renderer escapes attribute values anyway: `C04.render_pieces`).
-/
namespace MdIt.C04
open MdIt.C01 MdIt.C10

def alignVals : List String := ["center", "right", "left", ""]

def StyleOK (t : Tok) : Prop :=
  t.attrs = [] ∨ ∃ a ∈ ["center", "right", "left"], t.attrs = [("style", AttrVal.s ("text-align:" ++ a))]

theorem alignOf_vals (t : List Char) : alignOf t ∈ alignVals := by
  unfold alignOf alignVals
  repeat' split
  all_goals simp

theorem alignsGo_vals (ws : List Nat) (n : Nat) : ∀ (cols : List (List Char)) (i : Nat) (as : List String),
    alignsGo ws n i cols = some as → ∀ a ∈ as, a ∈ alignVals := by
  intro cols
  induction cols with
  | nil => intro i as h; simp only [alignsGo, Option.some.injEq] at h; subst h; intro a ha; cases ha
  | cons c rest ih =>
    intro i as h
    simp only [alignsGo] at h
    split at h
    · split at h
      · exact ih _ _ h
      · cases h
    · split at h
      · cases h
      · cases hr : alignsGo ws n (i + 1) rest with
        | none => rw [hr] at h; cases h
        | some r =>
          rw [hr] at h
          simp only [Option.map_some, Option.some.injEq] at h
          subst h
          intro a ha
          simp only [List.mem_cons] at ha
          rcases ha with rfl | ha
          · exact alignOf_vals _
          · exact ih _ _ hr a ha

theorem styleOK_of_tableTok {aligns : List String} (hv : ∀ a ∈ aligns, a ∈ alignVals) {t : Tok} (h : TableTok aligns t) : StyleOK t := by
  rcases h.2 with h0 | ⟨a, ha, h1⟩
  · exact .inl h0
  · have := hv a ha
    simp only [alignVals, List.mem_cons, List.not_mem_nil, or_false] at this
    rcases this with rfl | rfl | rfl | rfl
    · exact .inr ⟨"center", by simp, h1⟩
    · exact .inr ⟨"right", by simp, h1⟩
    · exact .inr ⟨"left", by simp, h1⟩
    · exact .inl h1

theorem table_style_values (codeOn : Bool) (terms : List BRule) (hin : ∀ t ∈ terms, SilentInert t) (ws : List Nat) (s : BState) (line endLine : Nat)
    (hlen : endLine < s.lines.length) (silent m : Bool) (s' : BState) (h : ruleTable codeOn terms ws s line endLine silent = .ok (m, s'))
    (hold : ∀ t ∈ s.tokens, StyleOK t) : ∀ t ∈ s'.tokens, StyleOK t := by
  rcases table_appAll codeOn terms hin ws s line endLine hlen silent m s' h with rfl | ⟨aligns, _, seg, hh, e, hseg⟩
  · exact hold
  · intro t ht
    rw [e] at ht
    rcases List.mem_append.mp ht with h1 | h1
    · exact hold t h1
    · obtain ⟨_, _, _, _, _, ha, _⟩ := tableHead_spec hh
      exact styleOK_of_tableTok (alignsGo_vals ws _ _ _ _ ha) (hseg t h1).1

end MdIt.C04
