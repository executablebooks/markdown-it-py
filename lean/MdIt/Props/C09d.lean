import MdIt.BlockTable
import MdIt.Str
/-!
# C09 (continued) — the table-cell context: what `escapedSplit` does to escaped text

A table row is cut into cells *before* the inline parser sees them; `\|` is the one escape the cutter interprets itself (it drops the
backslash and keeps the pipe in the cell).  So text written with a backslash before each ASCII punctuation character (`escapeAll t`,
the property's transformation) is never cut and reaches the inline parser as written except for the bare pipes (`C09.inline_literal`
applies from there, a bare `|` being an ordinary character for every inline rule), and cells joined by `|` come back as those cells
provided no cell but the last ends in a backslash (a sharp proviso: known finding D12).
-/
namespace MdIt.C09

/-- the escaped text as the cell holds it: pipes bare, every other ASCII punctuation character still behind its backslash -/
def escCellOf (t : List Char) : List Char :=
  t.flatMap (fun c => if c == '|' then ['|'] else if isAsciiPunct c then ['\\', c] else [c])

theorem escSplit_char {c : Char} (h : (c == '|') = false) (rest : List Char) (esc : Bool) (cell : List Char) :
    escSplitGo (c :: rest) esc cell = escSplitGo rest (c == '\\') (cell ++ [c]) := by
  rw [escSplitGo, h]; rfl

theorem escSplit_escPipe (rest : List Char) (esc : Bool) (cell : List Char) :
    escSplitGo ('\\' :: '|' :: rest) esc cell = escSplitGo rest false (cell ++ ['|']) := by
  rw [escSplit_char (by decide), escSplitGo, List.dropLast_concat]; rfl

theorem escSplit_escaped (P : Char → Bool) (hP : P '|' = true) (t : List Char) : ∀ (rest : List Char) (esc : Bool) (cell : List Char),
    escSplitGo (t.flatMap (fun c => if P c then ['\\', c] else [c]) ++ rest) esc cell =
      escSplitGo rest (t.getLast?.elim esc (· == '\\'))
        (cell ++ t.flatMap (fun c => if c == '|' then ['|'] else if P c then ['\\', c] else [c])) := by
  induction t with
  | nil => intro rest esc cell; simp
  | cons c t ih =>
    intro rest esc cell
    have hl : (c :: t).getLast?.elim esc (· == '\\') = t.getLast?.elim (c == '\\') (· == '\\') := by cases t <;> rfl
    rw [List.flatMap_cons, List.flatMap_cons, hl, List.append_assoc]
    by_cases hp : (c == '|') = true
    · rw [eq_of_beq hp, hP]
      simp only [if_true, beq_self_eq_true]
      rw [List.cons_append, List.cons_append, List.nil_append, escSplit_escPipe, ih, List.append_assoc]
      rfl
    · have hp' : (c == '|') = false := by simpa using hp
      rw [if_neg hp]
      cases P c
      · simp only [Bool.false_eq_true, if_false]
        rw [List.cons_append, List.nil_append, escSplit_char hp', ih, List.append_assoc]
      · simp only [if_true]
        rw [List.cons_append, List.cons_append, List.nil_append, escSplit_char (by decide), escSplit_char hp', ih]
        simp only [List.append_assoc, List.cons_append, List.nil_append]

/-- **C09.escSplit_escapeAll** — fully escaped text is one cell: no character of it is taken for a cell delimiter -/
theorem escSplit_escapeAll (t : List Char) : escSplitGo (escapeAll t) false [] = [escCellOf t] := by
  have h := escSplit_escaped isAsciiPunct (by decide) t [] false []
  rwa [List.append_nil, List.nil_append] at h

/-- a cell as it is written inside a row: its own pipes behind a backslash -/
def pipeEsc (c : List Char) : List Char := c.flatMap (fun ch => if ch == '|' then ['\\', '|'] else [ch])

def joinRow : List (List Char) → List Char
  | [] => []
  | [c] => pipeEsc c
  | c :: c2 :: rest => pipeEsc c ++ '|' :: joinRow (c2 :: rest)

theorem noEsc {c : List Char} (h : c.getLast? ≠ some '\\') : c.getLast?.elim false (· == '\\') = false := by
  cases hc : c.getLast? with
  | none => rfl
  | some x => exact beq_false_of_ne fun hx => h (hx ▸ hc)

theorem pipeEsc_go (c rest cell : List Char) (esc : Bool) :
    escSplitGo (pipeEsc c ++ rest) esc cell = escSplitGo rest (c.getLast?.elim esc (· == '\\')) (cell ++ c) := by
  have h1 : pipeEsc c = c.flatMap (fun ch => if ch == '|' then ['\\', ch] else [ch]) := by
    unfold pipeEsc
    congr 1
    funext ch
    by_cases h : (ch == '|') = true
    · rw [if_pos h, if_pos h, eq_of_beq h]
    · rw [if_neg h, if_neg h]
  have h2 : (fun ch : Char => if ch == '|' then ['|'] else if ch == '|' then ['\\', ch] else [ch]) = fun ch => [ch] := by
    funext ch
    by_cases h : (ch == '|') = true
    · rw [if_pos h, eq_of_beq h]
    · rw [if_neg h, if_neg h]
  rw [h1, escSplit_escaped (· == '|') rfl c rest esc cell, h2, List.flatMap_singleton']

/-- the cells of a row come back one by one; the last one is still open when the row is followed by more text -/
theorem joinRow_go : ∀ (cs : List (List Char)) (hne : cs ≠ []) (rest : List Char), (∀ c ∈ cs.dropLast, c.getLast? ≠ some '\\') →
    escSplitGo (joinRow cs ++ rest) false [] =
      cs.dropLast ++ escSplitGo rest ((cs.getLast hne).getLast?.elim false (· == '\\')) (cs.getLast hne) := by
  intro cs
  induction cs with
  | nil => intro h; exact absurd rfl h
  | cons c tl ih =>
    intro _ rest hb
    cases tl with
    | nil => rw [joinRow, pipeEsc_go]; rfl
    | cons c2 tl' =>
      rw [joinRow, List.append_assoc, pipeEsc_go, noEsc (hb c List.mem_cons_self), List.cons_append]
      exact congrArg (c :: ·) (ih (List.cons_ne_nil _ _) rest fun x hx => hb x (List.mem_cons_of_mem _ hx))

/-- **C09.escSplit_row** — cells joined by `|` are split back into those cells, unless a cell other than the last ends in `\` -/
theorem escSplit_row : ∀ (cs : List (List Char)), cs ≠ [] → (∀ c ∈ cs.dropLast, c.getLast? ≠ some '\\') →
    escSplitGo (joinRow cs) false [] = cs := by
  intro cs hne hb
  rw [← List.append_nil (joinRow cs), joinRow_go cs hne [] hb]
  exact List.dropLast_concat_getLast hne

theorem escSplit_row_app : ∀ (cs : List (List Char)) (rest : List Char), cs ≠ [] → (∀ c ∈ cs, c.getLast? ≠ some '\\') →
    escSplitGo (joinRow cs ++ '|' :: rest) false [] = cs ++ escSplitGo rest false [] := by
  intro cs rest hne hb
  rw [joinRow_go cs hne _ fun c hc => hb c (List.dropLast_subset cs hc), noEsc (hb _ (List.getLast_mem hne))]
  show cs.dropLast ++ cs.getLast hne :: escSplitGo rest false [] = _
  rw [List.append_cons, List.dropLast_concat_getLast]

/-- **C09.row_cells** — a row written with both enclosing pipes, `|c₁|c₂|…|cₙ|`, own pipes as `\|`, no cell ending in a backslash:
    `escapedSplit` followed by the two `pop`s yields exactly the cells — empty first / last cells included -/
theorem row_cells (cs : List (List Char)) (hne : cs ≠ []) (hb : ∀ c ∈ cs, c.getLast? ≠ some '\\') :
    popEnds (escSplitGo ('|' :: (joinRow cs ++ ['|'])) false []) = cs := by
  have h := escSplit_row_app cs [] hne hb
  simp only [escSplitGo] at h
  simp only [escSplitGo, beq_self_eq_true, Bool.not_false, if_true, h, popEnds]
  have hl : (cs ++ [([] : List Char)]).getLast? = some [] := by simp
  rw [hl]
  simp

/-- the proviso is sharp (known finding D12): the cell `\` followed by the cell `b` comes back as the single cell `|b` -/
theorem row_backslash_cell : escSplitGo (joinRow [['\\'], ['b']]) false [] = [['|', 'b']] := by decide +kernel

/-- non-vacuity: three cells with pipes, backslashes and an empty cell -/
example : escSplitGo (joinRow ["a|b".toList, [], "c\\d|".toList]) false [] = ["a|b".toList, [], "c\\d|".toList] := by decide +kernel
example : escSplitGo (escapeAll "a|b*c\\|".toList) false [] = ["a|b\\*c\\\\|".toList] := by decide +kernel

end MdIt.C09
