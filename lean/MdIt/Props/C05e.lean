import MdIt.Proofs.Pipeline
import MdIt.Props.C05d
import MdIt.Props.C10f
/-!
# C05 (continued) — end to end: every `href` / `src` in the output of `MarkdownIt.parse` (modelled sub-language) is acceptable

`image_hrefs` speaks about one run of the inline parser.  Here it is carried through the core chain: the block parse yields tokens of
the block vocabulary only (`C10.m_provenance`), the `inline` core rule hangs the inline parser's tokens under every `inline` token,
and `text_join` — a recursion over the nested token type that retypes `text_special`, merges adjacent `text` tokens and descends into
image descriptions — keeps every token's type and attributes (`joinToks_deep`, by the functional induction principle of the three
mutually recursive functions).  The passage is stated for any predicate the inline parser carries (`ParseN`) behind any block parse
(`core_deep`); `full_hrefs` is its instance `UTok`.
-/
namespace MdIt.C05
open MdIt.C01 MdIt.C10

/-- what `text_join` may do to a token without leaving the predicate: new content, `text_special` becomes `text`, new children -/
structure JoinClosed (N : Tok → Prop) : Prop where
  setContent : ∀ t c, N t → N (t.setContent c)
  setChildren : ∀ t cs, N t → N (t.setChildren cs)
  retype : ∀ tag n a m l c co mu i md b h, N (.mk "text_special" tag n a m l c co mu i md b h) → N (.mk "text" tag n a m l c co mu i md b h)

theorem forall_descList {N : Tok → Prop} (ts : List Tok) : (∀ x ∈ descList ts, N x) ↔ ∀ t ∈ ts, Deep N t :=
  ⟨fun h t ht => ⟨h t ((mem_descList t ts).2 ⟨t, ht, .inl rfl⟩), fun x hx => h x ((mem_descList x ts).2 ⟨t, ht, .inr hx⟩)⟩, deep_list ts⟩

theorem joinPush_deep {N : Tok → Prop} (hN : JoinClosed N) (acc : List Tok) (u : Tok) (hacc : ∀ t ∈ acc, Deep N t) (hu : Deep N u) :
    ∀ t ∈ joinPush acc u, Deep N t := by
  have happ : ∀ t ∈ acc ++ [u], Deep N t := fun t ht => (List.mem_append.1 ht).elim (hacc t) fun h => List.mem_singleton.1 h ▸ hu
  unfold joinPush
  split
  · rename_i last hlast
    split
    · intro t ht
      rcases List.mem_append.1 ht with ht | ht
      · exact hacc t ((List.dropLast_sublist acc).subset ht)
      · have hl := hacc last (List.mem_of_getLast? hlast)
        rw [List.mem_singleton.1 ht]
        exact ⟨hN.setContent _ _ hl.1, by rw [descendants_setContent]; exact hl.2⟩
    · exact happ
  · exact happ

theorem joinToks_deep {N : Tok → Prop} (hN : JoinClosed N) :
    (∀ acc cs : List Tok, (∀ x ∈ descList acc, N x) → (∀ x ∈ descList cs, N x) → ∀ x ∈ descList (joinToks acc cs), N x)
    ∧ (∀ t : Tok, Deep N t → Deep N (joinOne t))
    ∧ (∀ c : Option (List Tok), (∀ x ∈ descOpt c, N x) → ∀ x ∈ descOpt (joinOpt c), N x) := by
  apply joinToks.mutual_induct
    (motive_1 := fun acc cs => (∀ x ∈ descList acc, N x) → (∀ x ∈ descList cs, N x) → ∀ x ∈ descList (joinToks acc cs), N x)
    (motive_2 := fun t => Deep N t → Deep N (joinOne t))
    (motive_3 := fun c => (∀ x ∈ descOpt c, N x) → ∀ x ∈ descOpt (joinOpt c), N x)
  · -- an image: children joined
    intro type tag n a m l c co mu i md b h ty' himg ih hd
    have hty : type ≠ "text_special" := by
      intro he; subst he
      simp only [ty'] at himg
      exact absurd himg (by decide)
    have e : (if (type == "text_special") = true then "text" else type) = type := by rw [if_neg]; simpa using hty
    have himg' : (type == "image") = true := by simp only [ty'] at himg; rw [e] at himg; exact himg
    have hj : joinOne (.mk type tag n a m l c co mu i md b h) = .mk type tag n a m l (joinOpt c) co mu i md b h := by
      simp only [joinOne, e, himg', if_true]
    rw [hj]
    refine ⟨hN.setChildren _ (joinOpt c) hd.1, ?_⟩
    intro x hx
    simp only [descendants] at hx
    exact ih (fun y hy => hd.2 y (by simpa only [descendants] using hy)) x hx
  · -- any other token: at most retyped
    intro type tag n a m l c co mu i md b h ty' himg hd
    have hj : joinOne (.mk type tag n a m l c co mu i md b h) = .mk ty' tag n a m l c co mu i md b h := by
      simp only [joinOne]
      exact if_neg himg
    rw [hj]
    refine ⟨?_, ?_⟩
    · by_cases he : type = "text_special"
      · subst he
        have : ty' = "text" := by simp only [ty']; rfl
        rw [this]
        exact hN.retype _ _ _ _ _ _ _ _ _ _ _ _ hd.1
      · have : ty' = type := by simp only [ty']; rw [if_neg]; simpa using he
        rw [this]; exact hd.1
    · intro x hx
      simp only [descendants] at hx
      exact hd.2 x (by simpa only [descendants] using hx)
  · intro h; simpa [joinOpt] using h
  · intro h; simpa [joinOpt] using h
  · intro c cs ih h
    simp only [joinOpt, descOpt]
    exact ih (by intro x hx; simp [descList] at hx) (by simpa only [descOpt] using h)
  · intro acc hacc _
    simpa [joinToks] using hacc
  · intro acc t rest iht ih hacc hcs
    simp only [joinToks]
    rw [forall_descList] at hacc hcs
    exact ih ((forall_descList _).2 (joinPush_deep hN acc (joinOne t) hacc (iht (hcs t List.mem_cons_self))))
      ((forall_descList _).2 fun u hu => hcs u (List.mem_cons_of_mem _ hu))

theorem ParseN.join {ext : IExt} {lx : LExt} {ic : ICfg} {N : Tok → Prop} (h : ParseN ext lx ic N) : JoinClosed N :=
  ⟨fun t _ => h.fields t _ (by cases t; rfl), fun t _ => h.fields t _ (by cases t; rfl),
    fun _ _ _ _ _ _ _ _ _ _ _ _ _ => h.ofType "text" rfl (by simp [inlineAllowed]) (by decide) (by decide)⟩

def InlineDeep (N : Tok → Prop) (t : Tok) : Prop := t.type = "inline" → ∀ x ∈ descOpt t.children, N x

theorem core_deep {ext : IExt} {lx : LExt} {ic : ICfg} {N : Tok → Prop} (hN : ParseN ext lx ic N) (hon : ic.inlineOn = true) {cls : QCls}
    {mn : Int} {d : Nat} {bts ts : List Tok} (hc : coreTail ic (inlineOf cls ext lx ic mn d) bts = .ok ts) : ∀ t ∈ ts, InlineDeep N t := by
  intro t ht hinl x hx
  obtain ⟨cs, hp, hch⟩ := coreTail_children hon hc _ ht hinl
  rw [hch] at hx
  revert hx
  cases ic.textJoinOn
  · exact hN.toks hp x
  · exact (joinToks_deep hN.join).1 [] cs nofun (hN.toks hp) x

theorem full_deep {ext : IExt} {lx : LExt} {ic : ICfg} {N : Tok → Prop} (hN : ParseN ext lx ic N) (cls : QCls) (bc : MCfg)
    (hon : ic.inlineOn = true) (ws : List Nat) (mn : Int) (d : Nat) (src : List Char) (ts : List Tok)
    (h : fullParse cls ext lx bc ic ws mn d src = .ok ts) : ∀ t ∈ ts, t.type ∈ mAllowed bc ∧ InlineDeep N t := by
  obtain ⟨bts, hb, hc⟩ := fullParse_iff.1 h
  exact fun t ht => ⟨coreTail_types hc (m_provenance bc ws mn src bts hb) t ht, core_deep hN hon hc t ht⟩

/-- **C05.full_hrefs** — `MarkdownIt.parse` end to end on the modelled sub-language (nine of eleven block rules, eleven of twelve
inline rules, the core chain `normalize → block → inline → text_join`), with the `inline` core rule on and an acceptable reference
table (`RefsOK`): every top-level token has a type of the block vocabulary of the configuration, and below every `inline` token — in
its children and in every image description nested in them, to any depth — a `link_open` carries an `href` and an `image` a `src`
(the first attribute) that is empty or URL-safe ASCII which a browser does not read as a dangerous scheme (unless a whitelisted
`data:image/…;`). -/
theorem full_hrefs (cls : QCls) (ext : IExt) (lx : LExt) (hrefs : RefsOK lx) (bc : MCfg) (ic : ICfg) (hon : ic.inlineOn = true) (ws : List Nat)
    (mn : Int) (d : Nat) (src : List Char) (ts : List Tok) (h : fullParse cls ext lx bc ic ws mn d src = .ok ts) (t : Tok) (ht : t ∈ ts) :
    t.type ∈ mAllowed bc ∧ (t.type = "inline" → ∀ x ∈ descOpt t.children,
      (x.type = "link_open" → ∃ href : List Char, x.attrs.head? = some ("href", .s (String.ofList href)) ∧ DestOK href)
      ∧ (x.type = "image" → ∃ s : List Char, x.attrs.head? = some ("src", .s (String.ofList s)) ∧ DestOK s)) := by
  obtain ⟨hA, hD⟩ := full_deep (utok_parseN ext lx ic) cls bc hon ws mn d src ts h t ht
  exact ⟨hA, fun hty x hx => utok_destOK hrefs (hD hty x hx)⟩

/-- `(type, first attribute)` of the link and image tokens below the `inline` tokens of a parse, in order -/
def fullDests (r : Except PyErr (List Tok)) : Option (List (String × Option (String × AttrVal))) :=
  match r with
  | .ok ts => some ((ts.flatMap (fun t => descOpt t.children)).filterMap
      (fun t => if t.type == "link_open" || t.type == "image" then some (t.type, t.attrs.head?) else none))
  | .error _ => none

/-! non-vacuity: a whole document — heading, list in a quote, paragraph — with accepted and rejected destinations at several depths -/
example : fullDests (fullParse C02f.asciiCls ext0 C01.lx0
      { code := true, fence := true, hr := true, heading := true, htmlBlock := true, lheading := true, html := false }
      { text := true, newline := true, escape := true, backticks := true, strike := false, emphasis := true, link := true, image := true,
        autolink := true, htmlInline := false, entity := false, fragJoin := true, inlineOn := true, textJoinOn := true }
      [32, 9, 10, 11, 12, 13] 20 40
      "# [h](/a)\n\n> - ![i ![j](/k)](/l)\n> - [x](javascript:y)\n\n<http://m.n> [z][r]\n".toList)
    = some [("link_open", some ("href", .s "/a")), ("image", some ("src", .s "/l")), ("image", some ("src", .s "/k")),
            ("link_open", some ("href", .s "http://m.n")), ("link_open", some ("href", .s "/ref"))] := by decide +kernel

end MdIt.C05
