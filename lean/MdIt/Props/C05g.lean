import MdIt.Props.C16d
import MdIt.Props.C05e
import MdIt.Props.C01l
/-!
# C05 (continued) — all eleven block rules: every destination the parse emits or records is validated

`tChain` threads `env["references"]` through the parse; by `C16.keeps_*` every rule, loop and container hands the tables on and
`reference` only appends validated destinations; the table rule hands them on too (it only pushes tokens and runs its terminator
chain).  So the final block state satisfies `RefsValid` (no contract of the engine is used, the statements are about results), the
env the inline rules read is acceptable (`C16.envAfter_refsOK`), and `core_deep` applies to every `inline` token.
-/
namespace MdIt.C05
open MdIt.C01 MdIt.C16

variable {J : BState → Prop}

theorem add_RD (s : BState) (g : List Tok) (k : Int) : RD (s.add g k) = RD s := rfl

theorem closeTable_RD (line ntok idx : Nat) (old : String) (r : Nat) (s7 : BState) : RD (closeTable line ntok idx old r s7) = RD s7 := by
  unfold closeTable RD
  dsimp only
  split <;> rfl

theorem tableBody_keeps (hJ : OnTables J) (codeOn : Bool) (hts : ∀ t ∈ terms, Keeps J t) (ws : List Nat) (aligns : List String)
    (startLine endLine : Nat) (fuel next : Nat) (s : BState) (hj : J s) :
    OKW (·.2) J (tableBody codeOn terms ws aligns startLine endLine fuel next s) := by
  fun_induction tableBody codeOn terms ws aligns startLine endLine fuel next s
  case case1 | case2 | case4 | case6 => exact okw_error _ _ _  -- the paths that raise
  case case3 | case10 => exact okw_ok _ _ _ hj  -- an outdented line; the end of the range
  case case5 s1 heq | case7 s1 heq _ _ _ _ | case8 s1 heq _ _ _ _ _ =>  -- a terminator matches; a blank line; a code-indented line
    exact okw_ok _ _ _ (runTerminators_keeps hts _ _ _ hj _ heq)
  case case9 s1 heq _ _ _ _ _ _ _ _ _ _ ih =>  -- a row
    refine ih (hJ s1 _ ?_ (runTerminators_keeps hts _ _ _ hj _ heq))
    show RD (pushRow ws aligns _ _ (openBody startLine _ s1)) = RD s1
    rw [pushRow_eq, add_RD]; unfold openBody; split <;> rfl

theorem keeps_table (hJ : OnTables J) (codeOn : Bool) (hts : ∀ t ∈ terms, Keeps J t) (ws : List Nat) : Keeps J (ruleTable codeOn terms ws) := by
  intro s line endLine silent m s' hj
  fun_cases ruleTable codeOn terms ws s line endLine silent
  all_goals intro h
  -- a match: the header pushed, the body loop, the closing pushes
  case case5 =>
    have h7 := tableBody_keeps hJ codeOn hts ws _ _ _ _ _ _ (hJ s _ (?_ : RD (pushHead ws line _ _ s) = RD s) hj) _
      ‹tableBody codeOn terms ws _ _ _ _ _ _ = Except.ok _›
    · cases h
      exact hJ _ _ (closeTable_RD line _ _ s.parentType _ _) h7
    · rw [pushHead_eq]; rfl
  all_goals cases h <;> exact hj

theorem tParaTerms_keeps (hJ : OnTables J) (c : TCfg) (ws : List Nat) (mn : Int) : ∀ t ∈ tParaTerms c ws mn, Keeps J t := by
  intro t ht
  simp only [tParaTerms, List.mem_append, List.mem_ite_nil_right, List.mem_singleton] at ht
  rcases ht with ⟨_, rfl⟩ | ht
  · exact keeps_table hJ _ (fun r hr => by cases hr) ws
  · exact mTerminators_keepsJ hJ c.toMCfg ws mn t ht

theorem tChain_keeps_of (hJ : OnTables J) (ext : IExt) (lx : LExt) (c : TCfg) (ws : List Nat) (mn : Int)
    (hRef : ∀ terms : List BRule, (∀ t ∈ terms, Keeps J t) → Keeps J (ruleReference ext lx c.inlineDefs c.code terms ws)) :
    ∀ d : Nat, ∀ r ∈ tChain ext lx c ws mn d, Keeps J r := by
  have hT := mTerminators_keepsJ hJ c.toMCfg ws mn
  have hP := tParaTerms_keeps hJ c ws mn
  have hLT := mListTerms_keepsJ hJ c.toMCfg mn
  intro d
  induction d with
  | zero => intro r hr; simp [tChain] at hr
  | succ d ih =>
    intro r hr
    simp only [tChain, List.mem_append, List.mem_singleton, List.mem_ite_nil_right] at hr
    rcases hr with (((((((((⟨_, rfl⟩ | ⟨_, rfl⟩) | ⟨_, rfl⟩) | rfl) | ⟨_, rfl⟩) | rfl) | ⟨_, rfl⟩) | ⟨_, rfl⟩) | ⟨_, rfl⟩) | ⟨_, rfl⟩) | rfl
    · exact keeps_table hJ _ hT ws
    · exact keeps_of_untouched hJ (untouched_code _)
    · exact keeps_of_untouched hJ (untouched_fence _)
    · exact keeps_blockquote hJ _ hT ih mn
    · exact keeps_of_untouched hJ (untouched_hr _)
    · exact keeps_list hJ _ hLT ih mn
    · exact hRef _ hP
    · exact keeps_of_untouched hJ (untouched_htmlBlock _ _)
    · exact keeps_of_untouched hJ (untouched_heading _ _)
    · exact keeps_lheading hJ _ hP ws
    · exact keeps_paragraph hJ hP ws

theorem parse_keeps {J : BState → Prop} (hJ : OnTables J) {rules : List BRule} (hrs : ∀ r ∈ rules, Keeps J r) (mn : Int) (src : List Char)
    (h0 : J (initBState (normalize src))) (s : BState) (h : blockParse rules mn src = .ok s) : J s :=
  blockParse_ind J h h0 fun s' hs' => blockTokenize_keeps hJ hrs mn _ _ _ h0 s' hs'

theorem refsValid_init (ext : IExt) (src : List Char) : RefsValid ext (initBState src) :=
  ⟨fun _ he => (nomatch he), fun _ he => (nomatch he)⟩

theorem tChain_keeps (ext : IExt) (lx : LExt) (c : TCfg) (ws : List Nat) (mn : Int) :
    ∀ d : Nat, ∀ r ∈ tChain ext lx c ws mn d, Keeps (RefsValid ext) r :=
  tChain_keeps_of (refsValid_onTables ext) ext lx c ws mn (fun _ hts => keeps_reference ext lx _ _ hts ws)

/-- **every entry the block parse records in `env["references"]` / `env["duplicate_refs"]` is a validated destination** -/
theorem tParse_refsValid (ext : IExt) (lx : LExt) (c : TCfg) (ws : List Nat) (mn : Int) (src : List Char) (s : BState)
    (h : tParse ext lx c ws mn src = .ok s) : RefsValid ext s :=
  parse_keeps (refsValid_onTables ext) (tChain_keeps ext lx c ws mn _) mn src (refsValid_init ext _) s h

theorem hrefs_after (cls : QCls) (ext : IExt) (lx : LExt) (hrefs : RefsOK lx) (ic : ICfg) (hon : ic.inlineOn = true) (mn : Int) (d : Nat)
    (s : BState) (hv : RefsValid ext s) (ts : List Tok) (hc : coreTail ic (inlineOf cls ext (envAfter lx s) ic mn d) s.tokens = .ok ts) :
    (∀ e ∈ s.refs ++ s.dups, DestOK e.2.1)
    ∧ ∀ t ∈ ts, t.type = "inline" → ∀ x ∈ descOpt t.children,
      (x.type = "link_open" → ∃ href : List Char, x.attrs.head? = some ("href", .s (String.ofList href)) ∧ DestOK href)
      ∧ (x.type = "image" → ∃ s : List Char, x.attrs.head? = some ("src", .s (String.ofList s)) ∧ DestOK s) := by
  constructor
  · intro e he
    obtain ⟨u, hu, hval⟩ : ValidHref ext e.2.1 := (List.mem_append.1 he).elim (hv.1 e) (hv.2 e)
    rw [hu] at hval ⊢
    exact .inr ⟨encode_range _, api ext.reformat u hval⟩
  · intro t ht hty x hx
    exact utok_destOK (envAfter_refsOK ext lx s hrefs hv) (core_deep (utok_parseN ext (envAfter lx s) ic) hon hc t ht hty x hx)

/-- **C05.fullT_hrefs** — `MarkdownIt.parse` on the modelled language with all eleven block rules (`reference` and `table` included),
    from an acceptable env: whatever the parse returns, every destination it recorded and every `href` / `src` below every inline token
    (paragraphs, headings, **table cells**) is empty or URL-safe with no dangerous scheme -/
theorem fullT_hrefs (cls : QCls) (ext : IExt) (lx : LExt) (hrefs : RefsOK lx) (rc : TCfg) (ic : ICfg) (hon : ic.inlineOn = true) (ws : List Nat)
    (mn : Int) (d : Nat) (src : List Char) (ts : List Tok) (refs dups : List (List Char × List Char × List Char))
    (h : fullParseT cls ext lx rc ic ws mn d src = .ok (ts, refs, dups)) :
    (∀ e ∈ refs ++ dups, DestOK e.2.1)
    ∧ ∀ t ∈ ts, t.type = "inline" → ∀ x ∈ descOpt t.children,
      (x.type = "link_open" → ∃ href : List Char, x.attrs.head? = some ("href", .s (String.ofList href)) ∧ DestOK href)
      ∧ (x.type = "image" → ∃ s : List Char, x.attrs.head? = some ("src", .s (String.ofList s)) ∧ DestOK s) := by
  obtain ⟨s, hb, hc, rfl, rfl⟩ := fullParseT_iff.1 h
  exact hrefs_after cls ext lx hrefs ic hon mn d s (tParse_refsValid ext lx rc ws mn src s hb) ts hc


/-- the destinations a whole parse resolves, and the labels it records -/
def fullRDests (r : Except PyErr (List Tok × List (List Char × List Char × List Char) × List (List Char × List Char × List Char))) :
    Option (List (String × Option (String × AttrVal)) × List String) :=
  match r with
  | .ok (ts, refs, _) => some ((ts.flatMap (fun t => descOpt t.children)).filterMap
      (fun t => if t.type == "link_open" || t.type == "image" then some (t.type, t.attrs.head?) else none), refs.map (fun e => String.ofList e.1))
  | .error _ => none

/-! non-vacuity: a reference defined below a table and used in a cell, next to a rejected `javascript:` destination in another cell -/
example : fullRDests (fullParseT C02f.asciiCls ext0 { C01.lx0 with hasRefs := false, refs := fun _ => none }
      { code := true, fence := true, hr := true, heading := true, htmlBlock := false, lheading := true, html := false, reference := true,
        inlineDefs := false, table := true }
      { text := true, newline := true, escape := true, backticks := false, strike := false, emphasis := true, link := true, image := true,
        autolink := false, htmlInline := false, entity := false, fragJoin := true, inlineOn := true, textJoinOn := true }
      [32, 9, 10, 11, 12, 13] 20 40
      "|[a]|[x](javascript:q)|\n|-|-|\n|![i](<y z>)|[b]|\n\n[a]: /x\n[b]: <u v>\n".toList)
    = some ([("link_open", some ("href", .s "/x")), ("image", some ("src", .s "y%20z")), ("link_open", some ("href", .s "u%20v"))], ["A", "B"]) := by
  decide +kernel

end MdIt.C05
