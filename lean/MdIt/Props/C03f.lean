import MdIt.Proofs.Pipeline
import MdIt.Props.C03e
import MdIt.Props.C03g
/-!
# C03 (continued) — the source maps of `MarkdownIt.parse` end to end are those of the block parse

The `inline` and `text_join` core rules leave every block token's `map` alone, so the staging of the top-level blocks inside the
document (in range, non-empty, increasing, disjoint; every token of a block, nested ones included, has its map inside the block's
line range) holds for the stream the public entry point returns: `m_staged` gives `full_staged`, and `t_staged` (with the `table` rule) gives `fullT_staged`.
-/
namespace MdIt.C03

theorem mapsIn_of_maps (a b : Nat) (seg seg' : List Tok) (h : seg'.map Tok.map = seg.map Tok.map) (hm : MapsIn a b seg) : MapsIn a b seg' := by
  intro t ht x y hxy
  have : t.map ∈ seg'.map Tok.map := List.mem_map.2 ⟨t, ht, rfl⟩
  rw [h, List.mem_map] at this
  obtain ⟨u, hu, hue⟩ := this
  exact hm u hu x y (by rw [hue]; exact hxy)

theorem staged_of_maps {lo hi : Nat} {ts : List Tok} (h : Staged lo hi ts) : ∀ ts' : List Tok, ts'.map Tok.map = ts.map Tok.map → Staged lo hi ts' := by
  induction h with
  | nil =>
    intro ts' he
    have hnil : ts' = [] := by simpa using he
    rw [hnil]; exact .nil _ _
  | stage a b seg rest h1 h2 h3 h4 _ ih =>
    intro ts' he
    rw [List.map_append] at he
    have hlen : ts'.length = seg.length + rest.length := by
      have := congrArg List.length he; simpa using this
    have hsl : (seg.map Tok.map).length = seg.length := by simp
    have e1 : (ts'.take seg.length).map Tok.map = seg.map Tok.map := by
      rw [List.map_take, he, ← hsl, List.take_left']
      rfl
    have e2 : (ts'.drop seg.length).map Tok.map = rest.map Tok.map := by
      rw [List.map_drop, he, ← hsl, List.drop_left']
      rfl
    rw [← List.take_append_drop seg.length ts']
    exact .stage a b _ _ h1 h2 h3 (mapsIn_of_maps a b seg _ e1 h4) (ih _ e2)

theorem maps_of_setCh {ts bts : List Tok} (h : ts.map (·.setChildren none) = bts.map (·.setChildren none)) :
    ts.map Tok.map = bts.map Tok.map := by
  have := congrArg (List.map Tok.map) h
  simpa only [List.map_map, Function.comp_def, Tok.setChildren_map] using this

theorem coreInline_maps (parse : List Char → Except PyErr (List Tok)) : ∀ (bts ts : List Tok), coreInline parse bts = .ok ts →
    ts.map Tok.map = bts.map Tok.map :=
  fun _ _ h => maps_of_setCh (coreInline_setCh h)

theorem textJoin_maps (ts : List Tok) : (textJoin ts).map Tok.map = ts.map Tok.map :=
  maps_of_setCh (textJoin_setCh ts)

/-- **C03.full_staged** — the stream `MarkdownIt.parse` returns (modelled sub-language): the top-level blocks are staged inside the
document — maps in range, non-empty, increasing and disjoint -/
theorem full_staged (cls : QCls) (ext : IExt) (lx : LExt) (bc : MCfg) (ic : ICfg) (ws : List Nat) (mn : Int) (d : Nat) (src : List Char)
    (ts : List Tok) (h : fullParse cls ext lx bc ic ws mn d src = .ok ts) : Staged 0 (initBState (normalize src)).lineMax ts := by
  obtain ⟨bts, hb, hc⟩ := fullParse_iff.1 h
  exact staged_of_maps (m_staged bc ws mn src bts hb) _ (maps_of_setCh (coreTail_setCh hc))

theorem fullT_staged (cls : QCls) (ext : IExt) (lx : LExt) (tc : TCfg) (hnr : tc.reference = false) (ic : ICfg) (ws : List Nat) (mn : Int)
    (d : Nat) (src : List Char) (ts : List Tok) (refs dups) (h : fullParseT cls ext lx tc ic ws mn d src = .ok (ts, refs, dups)) :
    Staged 0 (initBState (normalize src)).lineMax ts := by
  obtain ⟨st, hb, hc, _⟩ := fullParseT_iff.1 h
  exact staged_of_maps (t_staged ext lx tc hnr ws mn src st hb) _ (maps_of_setCh (coreTail_setCh hc))

end MdIt.C03
