import MdIt.Conc
import MdIt.Proofs.Ruler
/-!
# C13 — concurrent or nested parses on a shared instance do not interfere

Model: `MdIt/Conc.lean` (threads taking atomic steps under any schedule, re-entrancy included).  The invariant `Inv`: a published
cache agrees with `chainOf`, and each thread has so far received the answers of its solo run.
-/
namespace MdIt.C13

def GoodCache (rules : List Rule) (c : Option Cache) : Prop :=
  ∀ x, c = some x → ∀ ch, lookup x ch = chainOf rules ch

def GoodThread (rules : List Rule) (cache : Option Cache) (t : Thread) : Prop :=
  t.got = soloResult rules (t.orig.take t.got.length) ∧
  (match t.pc with
   | .idle => t.orig = t.got.map (·.1) ++ t.todo
   | .r1 ch => t.orig = t.got.map (·.1) ++ ch :: t.todo
   | .built ch c => t.orig = t.got.map (·.1) ++ ch :: t.todo ∧ ∀ k, lookup c k = chainOf rules k
   | .r2 ch => t.orig = t.got.map (·.1) ++ ch :: t.todo ∧ cache ≠ none)

def Inv (s : Sys) : Prop :=
  GoodCache s.rules s.cache ∧ ∀ t ∈ s.threads, GoodThread s.rules s.cache t

theorem soloResult_fst (rules : List Rule) (l : List String) : (soloResult rules l).map (·.1) = l := by
  simp [soloResult, Function.comp_def]

theorem stepThread_inv (rules : List Rule) (cache : Option Cache) (t : Thread)
    (hc : GoodCache rules cache) (ht : GoodThread rules cache t) :
    GoodCache rules (stepThread rules cache t).1 ∧
    GoodThread rules (stepThread rules cache t).1 (stepThread rules cache t).2 ∧
    (cache ≠ none → (stepThread rules cache t).1 ≠ none) := by
  obtain ⟨hg, hp⟩ := ht
  fun_cases stepThread rules cache t with
  | case1 => exact ⟨hc, ⟨hg, hp⟩, id⟩
  | case2 _ hpc ch rest htd =>
    rw [hpc] at hp
    exact ⟨hc, ⟨hg, by show t.orig = _; rw [hp, htd]⟩, id⟩
  | case3 ch hpc c =>
    rw [hpc] at hp
    exact ⟨hc, ⟨hg, hp, nofun⟩, id⟩
  | case4 ch hpc =>
    rw [hpc] at hp
    exact ⟨hc, ⟨hg, hp, lookup_compile rules⟩, id⟩
  | case5 _ ch c hpc =>
    rw [hpc] at hp
    exact ⟨fun x hx => by cases hx; exact hp.2, ⟨hg, hp.1, nofun⟩, fun _ => nofun⟩
  | case6 ch hpc c =>
    rw [hpc] at hp
    refine ⟨hc, ⟨?_, ?_⟩, id⟩
    · show t.got ++ [(ch, lookup c ch)] = soloResult rules (t.orig.take (t.got ++ [(ch, lookup c ch)]).length)
      have hl : t.got.length = (t.got.map (·.1)).length := (List.length_map _).symm
      rw [hp.1, hl, List.take_left' rfl] at hg
      rw [List.length_append, List.length_singleton, hp.1, hl, List.take_length_add_append, hc c rfl ch]
      rw [soloResult, List.map_append, ← soloResult, ← hg]
      rfl
    · show t.orig = _
      simp only [List.map_append, List.map_cons, List.map_nil, List.append_assoc, List.cons_append,
        List.nil_append]
      exact hp.1
  | case7 ch hpc =>
    rw [hpc] at hp
    exact absurd rfl hp.2

theorem goodThread_mono (rules : List Rule) (c c' : Option Cache) (t : Thread)
    (h : GoodThread rules c t) (hmono : c ≠ none → c' ≠ none) : GoodThread rules c' t := by
  obtain ⟨hg, hp⟩ := h
  refine ⟨hg, ?_⟩
  cases hpc : t.pc with
  | idle | r1 | built => rw [hpc] at hp; exact hp
  | r2 ch => rw [hpc] at hp; exact ⟨hp.1, hmono hp.2⟩

theorem step_inv (s : Sys) (i : Nat) (h : Inv s) : Inv (s.step i) ∧ (s.step i).rules = s.rules := by
  unfold Sys.step
  cases hti : s.threads[i]? with
  | none => exact ⟨h, rfl⟩
  | some t =>
    have htmem : t ∈ s.threads := List.mem_of_getElem? hti
    obtain ⟨h1, h2, h3⟩ := stepThread_inv s.rules s.cache t h.1 (h.2 t htmem)
    refine ⟨⟨h1, ?_⟩, rfl⟩
    intro u hu
    simp only at hu
    rcases List.mem_or_eq_of_mem_set hu with hu | hu
    · exact goodThread_mono _ _ _ _ (h.2 u hu) h3
    · subst hu; exact h2

theorem run_inv (s : Sys) (sched : List Nat) (h : Inv s) :
    Inv (s.run sched) ∧ (s.run sched).rules = s.rules := by
  induction sched generalizing s with
  | nil => exact ⟨h, rfl⟩
  | cons i rest ih =>
    have := step_inv s i h
    have r := ih (s.step i) this.1
    exact ⟨r.1, r.2.trans this.2⟩

/-- initial states: any coherent cache (in particular `none`: first use, or freshly reconfigured),
    any number of threads each about to parse -/
theorem init_inv (rules : List Rule) (cache : Option Cache) (hc : GoodCache rules cache)
    (work : List (List String)) :
    Inv { rules := rules, cache := cache, threads := work.map Thread.start } := by
  refine ⟨hc, ?_⟩
  intro t ht
  simp only [List.mem_map] at ht
  obtain ⟨w, _, rfl⟩ := ht
  simp [GoodThread, Thread.start, soloResult]

/-- **C13.interleave** — for every number of threads, every schedule, from every coherent initial
cache (incl. `none`): at every moment, the responses each thread has received so far are exactly the
first responses of its solo run; and a thread that has finished holds exactly its solo result. -/
theorem interleave (rules : List Rule) (cache : Option Cache) (hc : GoodCache rules cache)
    (work : List (List String)) (sched : List Nat) :
    let s := (Sys.mk rules cache (work.map Thread.start)).run sched
    ∀ t ∈ s.threads,
      t.got = soloResult rules (t.orig.take t.got.length)
      ∧ (t.done = true → t.got = soloResult rules t.orig) := by
  intro s t ht
  have hinv := run_inv _ sched (init_inv rules cache hc work)
  have hrules : s.rules = rules := hinv.2
  have hgt := hinv.1.2 t ht
  rw [hrules] at hgt
  refine ⟨hgt.1, ?_⟩
  intro hdone
  obtain ⟨hg, hp⟩ := hgt
  unfold Thread.done at hdone
  cases hpc : t.pc with
  | idle =>
    rw [hpc] at hp
    simp only [Bool.and_eq_true, List.isEmpty_iff] at hdone
    rw [hdone.1, List.append_nil] at hp
    have hlen : t.got.length = t.orig.length := by rw [hp]; simp
    rw [hg, hlen, List.take_length]
  | r1 | built | r2 => simp [hpc] at hdone

theorem stepThread_orig (rules : List Rule) (cache : Option Cache) (t : Thread) :
    (stepThread rules cache t).2.orig = t.orig := by
  fun_cases stepThread rules cache t <;> rfl

/-- threads keep their identity and work list: thread `i` of the final state is thread `i` of the
initial one (so "its solo result" is the solo result of the work it was given) -/
theorem threads_orig (s : Sys) (sched : List Nat) :
    (s.run sched).threads.map (·.orig) = s.threads.map (·.orig) := by
  induction sched generalizing s with
  | nil => rfl
  | cons i rest ih =>
    rw [Sys.run, ih]
    unfold Sys.step
    cases hti : s.threads[i]? with
    | none => rfl
    | some t =>
      obtain ⟨hlt, rfl⟩ := List.getElem?_eq_some_iff.1 hti
      simp only [List.map_set, stepThread_orig]
      have : s.threads[i].orig = (s.threads.map (·.orig))[i]'(by simpa using hlt) := by simp
      rw [this, List.set_getElem_self]

/-- the `r2` read never finds the cache unpublished: `assert self.__cache__ is not None` cannot fail
and `None.get` cannot happen, under any schedule -/
theorem r2_never_none (rules : List Rule) (cache : Option Cache) (hc : GoodCache rules cache)
    (work : List (List String)) (sched : List Nat) :
    let s := (Sys.mk rules cache (work.map Thread.start)).run sched
    ∀ t ∈ s.threads, ∀ ch, t.pc = .r2 ch → s.cache ≠ none := by
  intro s t ht ch hpc
  have hinv := run_inv _ sched (init_inv rules cache hc work)
  have := (hinv.1.2 t ht).2
  rw [hpc] at this
  exact this.2

/-! ### non-vacuity and the counter-example that motivates the single publishing store -/

def demoRules : List Rule := [⟨"a", true, 1, ["x"]⟩, ⟨"b", true, 2, []⟩]

/-- two threads, first use (`cache = none`), thread 1 pre-empts thread 0 between build and publish -/
example :
    let s := (Sys.mk demoRules none ([[""], ["x", ""]].map Thread.start)).run
      [0, 0, 1, 1, 1, 1, 0, 0, 1, 1, 1, 1]
    s.threads.map (·.got) = [[("", [1, 2])], [("x", [1]), ("", [1, 2])]] := by decide +kernel

/-- `runOld` (`self.__cache__ = {}` published first, filled afterwards) under the schedule "thread 0 publishes `{}`, thread 1 runs":
thread 1 reads an empty chain although rules 1 and 2 are enabled — defect D6, which F6 (build locally, publish once) removes -/
example :
    let r := runOld demoRules none [⟨[""], .idle, []⟩, ⟨[""], .idle, []⟩] [0, 0, 1, 1, 1]
    (r.2.map (·.got)) = [[], [("", [])]] ∧ chainOf demoRules "" = [1, 2] := by decide +kernel

end MdIt.C13
