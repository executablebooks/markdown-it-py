import MdIt.Props.C01e
import MdIt.Proofs.TokFields
/-!
# C08 (continued) — code spans of the inline sub-parser hold exactly the text between their backtick strings

The content of a `code_inline` token is `codeSpanContent` of the source between its two backtick runs (`CodeSpanTok`): line endings
to spaces, one space stripped from each side iff both are there and the text is not all spaces (`C08.codespan_spec`).
-/
namespace MdIt.C08
open MdIt.C01

def slice' (src : List Char) (a b : Nat) : List Char := (src.take b).drop a

/-- if `t` is a `code_inline` token, it is the code span of `src` between a run of `n` backticks that ends at `a` and the same run
from `b` on; of any other token nothing is said -/
def CodeSpanTok (src : List Char) (t : Tok) : Prop :=
  t.type = "code_inline" → ∃ (a b n : Nat), 1 ≤ n ∧ n ≤ a ∧ a ≤ b ∧ t.markup.toList = List.replicate n '`'
    ∧ slice' src (a - n) a = List.replicate n '`' ∧ slice' src b (b + n) = List.replicate n '`'
    ∧ t.content.toList = codeSpanContent (slice' src a b)

/-- the invariant of the loop: the tokens pushed so far are code spans of the state's own source -/
def AllSpans (s : IState) : Prop := ∀ t ∈ s.tokens, CodeSpanTok s.src t

theorem not_span (src : List Char) (ty tag : String) (n lvl : Int) (c m i : String) (h : ty ≠ "code_inline") :
    CodeSpanTok src (mkInlineTok ty tag n lvl c m i) := by
  intro ht; simp only [mkInlineTok, Tok.type] at ht; exact absurd ht h

theorem allSpans_pushPending (s : IState) (h : AllSpans s) : AllSpans s.pushPending := by
  intro t ht
  simp only [IState.pushPending, List.mem_append, List.mem_singleton] at ht
  rcases ht with ht | rfl
  · exact h t ht
  · exact not_span _ _ _ _ _ _ _ _ (by decide)

theorem spans_of_leaf {T r} (h : Leaf T r) (src : List Char) (hT : ∀ s op, T s op → ∀ lvl, CodeSpanTok s.src (op.tok lvl)) :
    KeepsI (fun x => AllSpans x ∧ x.src = src) r := by
  intro s silent hq a hr
  obtain ⟨ops, pre, d⟩ := h.did hr
  refine ⟨fun t ht => ?_, d.app.src.trans hq.2⟩
  rw [d.app.tokens, List.mem_append, List.mem_append] at ht
  rw [d.app.src]
  rcases ht with ht | ht | ht
  · exact hq.1 t ht
  · obtain ⟨lvl, c, rfl⟩ := d.flush t ht; exact not_span _ _ _ _ _ _ _ _ (by decide)
  · obtain ⟨op, hop, l', rfl⟩ := mem_opToks ht; exact hT s op (d.steps op hop) l'

theorem btRun_all (src : List Char) (max : Nat) : ∀ (fuel pos i : Nat), pos ≤ i → i < btRun src max fuel pos → src[i]? = some '`' := by
  intro fuel pos i h1 h2
  fun_induction btRun src max fuel pos with
  | case1 | case3 | case4 | case5 => omega
  | case2 _ pos _ c hq hc ih =>
    by_cases hi : i = pos
    · subst hi; rw [hq]; simp only [beq_iff_eq] at hc; rw [hc]
    · exact ih (by omega) h2

theorem slice_all (src : List Char) (a b : Nat) (c : Char) (h : ∀ i, a ≤ i → i < b → src[i]? = some c) :
    slice' src a b = List.replicate (b - a) c := by
  unfold slice'
  apply List.ext_getElem?
  intro j
  rw [List.getElem?_drop, List.getElem?_take]
  by_cases hj : j < b - a
  · have : a + j < b := by omega
    simp only [this]
    rw [h (a + j) (by omega) this]
    simp [hj]
  · have : ¬ (a + j < b) := by omega
    simp only [this]
    simp [hj]

theorem span_backticks (s : IState) (bt : List (Nat × Nat)) (ms me : Nat) (h0 : s.src[s.pos]? = some '`')
    (hsc : btScan s.src s.posMax (btRun s.src s.posMax (s.posMax - s.pos) (s.pos + 1) - s.pos)
      (s.src.length - btRun s.src s.posMax (s.posMax - s.pos) (s.pos + 1) + 1) (btRun s.src s.posMax (s.posMax - s.pos) (s.pos + 1)) s.backticks
        = (some (ms, me), bt)) (lvl : Int) :
    CodeSpanTok s.src (mkInlineTok "code_inline" "code" 0 lvl
      (String.ofList (codeSpanContent ((s.src.take ms).drop (btRun s.src s.posMax (s.posMax - s.pos) (s.pos + 1)))))
      (String.ofList ((s.src.take (btRun s.src s.posMax (s.posMax - s.pos) (s.pos + 1))).drop s.pos)) "") := by
  generalize hpos : btRun s.src s.posMax (s.posMax - s.pos) (s.pos + 1) = pos at hsc
  have hge : s.pos + 1 ≤ pos := by rw [← hpos]; exact btRun_ge _ _ _ _
  have hopen : ∀ i, s.pos ≤ i → i < pos → s.src[i]? = some '`' := by
    intro i h1 h2
    by_cases hi : i = s.pos
    · subst hi; exact h0
    · rw [← hpos] at h2; exact btRun_all s.src s.posMax _ (s.pos + 1) i (by omega) h2
  obtain ⟨b1, b2, b3, b4⟩ := btScan_spec _ _ _ _ _ _ _ _ _ hsc
  have hclose : ∀ i, ms ≤ i → i < me → s.src[i]? = some '`' := by
    intro i h1 h2
    by_cases hi : i = ms
    · subst hi; exact b2
    · rw [b3] at h2; exact btRun_all s.src s.posMax _ (ms + 1) i (by omega) h2
  have hme : ms + 1 ≤ me := by rw [b3]; exact btRun_ge _ _ _ _
  intro _
  refine ⟨pos, ms, pos - s.pos, by omega, by omega, b1, ?_, ?_, ?_, ?_⟩
  · show (String.ofList ((s.src.take pos).drop s.pos)).toList = _
    rw [String.toList_ofList]
    exact slice_all s.src s.pos pos '`' hopen
  · have : pos - (pos - s.pos) = s.pos := by omega
    rw [this]; exact slice_all s.src s.pos pos '`' hopen
  · have e : ms + (pos - s.pos) = me := by omega
    rw [e]
    have := slice_all s.src ms me '`' hclose
    rw [this]; congr 1
  · show (String.ofList _).toList = _
    rw [String.toList_ofList]; rfl

theorem codeSpan_setLevel (src : List Char) (t : Tok) (l : Int) (h : CodeSpanTok src t) : CodeSpanTok src (t.setLevel l) := by
  unfold CodeSpanTok at *
  simp only [Tok.setLevel_type, Tok.setLevel_markup, Tok.setLevel_content]
  exact h

theorem iminiChain_spans (c : IMiniCfg) (src : List Char) : ∀ r ∈ iminiChain c, KeepsI (fun x => AllSpans x ∧ x.src = src) r := by
  refine iminiChain_forall (spans_of_leaf leaf_text src (fun _ _ h => h.elim))
    (fun _ => spans_of_leaf leaf_newline src (fun _ _ ⟨_, h, e⟩ _ => e ▸ not_span _ _ _ _ _ _ _ _ (by rcases h with e | e <;> (rw [e]; decide))))
    (fun _ => spans_of_leaf leaf_escape src (fun _ _ h _ => by
      rcases h with rfl | ⟨_, _, rfl⟩
      · exact not_span _ "hardbreak" _ _ _ _ _ _ (by decide)
      · exact not_span _ "text_special" _ _ _ _ _ _ (by decide)))
    (fun _ => spans_of_leaf leaf_backticks src ?_)
  rintro s _ ⟨bt, ms, me, h0, hsc, rfl⟩ lvl
  exact span_backticks s bt ms me h0 hsc lvl

/-- **C08.imini_codespans** — for every source, every subset of `newline`, `escape`, `backticks`, every `maxNesting`, with or
without `fragments_join`: every `code_inline` token of the modelled inline parse holds `codeSpanContent` of exactly the text between
two backtick runs of the source whose common length is the token's markup -/
theorem imini_codespans (c : IMiniCfg) (fragJoin : Bool) (maxNesting : Int) (src : List Char) (ts : List Tok)
    (h : inlineParse (iminiChain c) [] fragJoin maxNesting src = .ok ts) : ∀ t ∈ ts, CodeSpanTok src t := by
  obtain ⟨s2, htk, rfl⟩ := inlineParse_ok h
  obtain ⟨h2, hsrc⟩ := tokenize_keepsI (J := fun x => AllSpans x ∧ x.src = src) (fun _ _ h => h) (fun s h => ⟨allSpans_pushPending s h.1, h.2⟩)
    (iminiChain_spans c src) maxNesting (IState.init src) ⟨fun _ ht => (by cases ht), rfl⟩ s2 htk
  unfold AllSpans at h2
  rw [hsrc] at h2
  split
  · -- only `text` tokens are joined
    exact fragmentsJoin_forall (codeSpan_setLevel src) (fun t c ht _ hc => by rw [Tok.setContent_type, ht] at hc; exact absurd hc (by decide)) 0 _ h2
  · exact h2

end MdIt.C08
