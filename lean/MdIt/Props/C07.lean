import MdIt.Props.C01
import MdIt.Props.C03
/-!
# C07 — top-level blocks are parsed independently: documents compose by concatenation

Engine level (`frame`, `stages`); the simulations are in `C07b`, `C07c`.  The fields the loop does *not* restore
(`parentType`, `tight`) are written by the loop/rules before they are read; that they are never read stale is
checked by the tie (state traces) and the oracle, not proved (`pins_cover`, `pins_paragraph` are the static part).
-/
namespace MdIt.C07

/-- **C07.frame** — under the rule contracts the whole loop (any number of blocks, containers
included) returns with the frame fields of its entry state -/
theorem frame (P : BState → Nat → Prop) (hP : FrameClosed P) (rules : List BRule) (hok : ∀ r ∈ rules, RuleOK P r)
    (hlast : ∃ r ∈ rules, AlwaysMatches P r)
    (maxNesting : Int) (s : BState) (startLine endLine : Nat) (hlen : s.lineMax + 1 ≤ s.lines.length)
    (hend : endLine ≤ s.lineMax) (hPs : P s endLine) :
    ∃ s', blockTokenize rules maxNesting s startLine endLine = .ok s' ∧ s'.lines = s.lines ∧ s'.lineMax = s.lineMax
      ∧ s'.blkIndent = s.blkIndent ∧ s'.level = s.level := by
  obtain ⟨s', h, hf⟩ := C01.block_tokenize_total P hP rules hok hlast maxNesting s startLine endLine hlen hend hPs
  exact ⟨s', h, hf.lines, hf.lineMax, hf.blkIndent, hf.level⟩

/-- **C07.stages** — the blocks of a document are emitted in stages with increasing, disjoint line
ranges (C03.loop_maps_staged): the tokens of a later block never reach back into the lines of an
earlier one -/
theorem stages (P : BState → Nat → Prop) (hP : FrameClosed P) (rules : List BRule) (hok : ∀ r ∈ rules, RuleOK P r)
    (hmap : ∀ r ∈ rules, C03.MapOK P r)
    (maxNesting : Int) (s s' : BState) (startLine endLine : Nat) (hlen : s.lineMax + 1 ≤ s.lines.length)
    (hend : endLine ≤ s.lineMax) (hPs : P s endLine) (h : blockTokenize rules maxNesting s startLine endLine = .ok s') :
    ∃ new, s'.tokens = s.tokens ++ new ∧ C03.Staged startLine s.lineMax new :=
  C03.loop_maps_staged P hP rules hok hmap maxNesting endLine _ startLine false s s' hlen hend hPs h

/-- **C07.pins_cover** (T1 obligation over tables regenerated from the rule sources) — every block rule
that runs a terminator chain assigns `state.parentType` a literal of its own while it does so: no
silent call reads a `parentType` left behind by an earlier block (the monitor checks on every real
silent call that the value seen is the caller's pin) -/
theorem pins_cover : ∀ r ∈ Gen.terminatorCallers, (Gen.blockPins.lookup r).isSome = true := by decide +kernel

/-- **C07.pins_paragraph** — the value `"paragraph"` (the only one a rule tests for: the list rule's
may-not-interrupt-a-paragraph clause) is the pin of exactly the paragraph and lheading rules -/
theorem pins_paragraph : ∀ p ∈ Gen.blockPins, (p.2 = "paragraph") = (p.1 = "paragraph" ∨ p.1 = "lheading") := by decide +kernel

end MdIt.C07
