import MdIt.Core
import MdIt.Proofs.TokFields
import MdIt.Proofs.Smart
import MdIt.Generated.Tables
/-!
# C19 — typographic replacements are local to text and never touch structure or literals

The regex substitutions are parameters of the model (`replacements`, `replacePass` in `MdIt/Core.lean`): the shape theorems hold for
*every* substitution function, hence for the eleven patterns of `replacements.py` whatever they rewrite.  Smartquotes:
`processInlines`, `smartInline` of `MdIt/Smart.lean`.
-/
namespace MdIt.C19

/-- **C19.replacePass_shape** (shape: one pass) — a replacement pass returns the same number of tokens, in the same
order, and token by token everything is identical except the `content` of `text` tokens; every
non-`text` token (code spans, raw HTML, links with their destinations and titles, `text_special`
tokens holding escaped/entity characters, …) is identical. -/
theorem replacePass_shape (sub : String → String) (k : Int) (ts : List Tok) :
    AllRel SameButText ts (replacePass sub k ts) := by
  induction ts generalizing k with
  | nil => exact .nil
  | cons t rest ih =>
    simp only [replacePass]
    refine .cons ?_ (ih _)
    by_cases h : (t.type == "text" && k == 0) = true
    · simp only [h, if_true]
      simp only [Bool.and_eq_true, beq_iff_eq] at h
      exact SameButText.setContent t _ h.1
    · simp only [h, Bool.false_eq_true, if_false]; exact SameButText.refl t

/-- **C19.replacePass_autolink** (autolink) — inside an autolink (counter ≠ 0) a pass leaves even `text` tokens identical -/
theorem replacePass_autolink (sub : String → String) (k : Int) (hk : k ≠ 0) (t : Tok) (rest : List Tok) :
    (replacePass sub k (t :: rest)).head? = some t := by
  have : (k == 0) = false := by simpa using hk
  simp [replacePass, this]

/-- the token directly behind an `auto` link_open is left as it is: the counter is −1 there -/
theorem replacePass_counter (sub : String → String) (o txt c : Tok) (rest : List Tok)
    (ho : (o.type == "link_open" && o.info == "auto") = true) (hoc : (o.type == "link_close" && o.info == "auto") = false)
    (ht1 : (txt.type == "link_open" && txt.info == "auto") = false)
    (ht2 : (txt.type == "link_close" && txt.info == "auto") = false) :
    (replacePass sub 0 (o :: txt :: c :: rest))[1]? = some txt := by
  simp [replacePass, ho, hoc, ht1, ht2]

/-- what `replacements` may change in a top-level token: nothing, or (for `inline` tokens) the
content of `text` children -/
def TopSame (a b : Tok) : Prop :=
  a.setChildren none = b.setChildren none ∧
  (match a.children, b.children with
   | none, none => True
   | some x, some y => AllRel SameButText x y
   | _, _ => False)

/-- **C19.replacements_shape** (shape) — the whole `replacements` rule: same top-level tokens (every field, including an
inline token's own `content`), and for inline tokens the children obey `replacePass_shape`. -/
theorem replacements_shape (scopedHit rareHit : String → Bool) (subScoped subRare : String → String)
    (ts : List Tok) :
    AllRel TopSame ts (replacements scopedHit rareHit subScoped subRare ts) := by
  unfold replacements
  induction ts with
  | nil => exact .nil
  | cons t rest ih =>
    simp only [List.map_cons]
    refine .cons ?_ ih
    have hsame : ∀ l : List Tok, AllRel SameButText l l := AllRel.refl SameButText.refl
    have hpass : ∀ (c : Bool) (sub : String → String) (l : List Tok),
        AllRel SameButText l (if c then replacePass sub 0 l else l) := by
      intro c sub l
      cases c with
      | true => exact replacePass_shape sub 0 l
      | false => exact hsame l
    split
    · split
      · rename_i hc
        exact ⟨rfl, by rw [hc]; trivial⟩
      · rename_i cs hc
        refine ⟨(Tok.setChildren_setChildren t _ none).symm, ?_⟩
        rw [hc, Tok.setChildren_children]
        exact AllRel.trans SameButText.trans (hpass _ subScoped cs) (hpass _ subRare _)
    · refine ⟨rfl, ?_⟩
      cases t.children with
      | none => trivial
      | some cs => exact hsame cs

/-- **C19.smart_frame** — `process_inlines` writes only to `text` tokens outside autolinks: the
content of every other token of the list (code spans, raw HTML, `text_special`, link tokens,
autolink text, images, …) is what it was. -/
theorem smart_frame (cls : QCls) (q : Quotes) (toks : List Tok) (j : Nat) (hj : editable toks j = false) :
    (processInlines cls q toks toks.length 0 ⟨toks.map (·.content.toList), []⟩).contents[j]?
      = (toks.map (·.content.toList))[j]? := by
  -- the run starts with an empty quote stack, so every stack entry is editable
  have := processInlines_framed cls q toks toks.length 0 ⟨toks.map (·.content.toList), []⟩ (by intro it h; cases h)
  exact this.same j (by simp [hj])

theorem editable_text (toks : List Tok) (j : Nat) (t : Tok) (ht : toks[j]? = some t)
    (he : editable toks j = true) : t.type = "text" := by
  unfold editable at he
  rw [ht] at he
  split at he
  · rename_i t' _ heq _
    simp only [Option.some.injEq] at heq; subst heq
    simpa using he
  · cases he

/-- **C19.smartInline_shape** (shape: smartquotes) — the children after `process_inlines`, for every quotes option
(strings of any length, also empty) and every classification of characters: same length, same
order, identical tokens except the `content` of `text` tokens outside autolinks. -/
theorem smartInline_shape (cls : QCls) (q : Quotes) (toks : List Tok) :
    AllRel SameButText toks (smartInline cls q toks)
    ∧ ∀ j, editable toks j = false → (smartInline cls q toks)[j]? = toks[j]? := by
  have hsame := smart_frame cls q toks
  have hlen : (processInlines cls q toks toks.length 0 ⟨toks.map (·.content.toList), []⟩).contents.length = toks.length := by
    rw [(processInlines_framed cls q toks toks.length 0 ⟨toks.map (·.content.toList), []⟩ (by intro it h; cases h)).len]
    simp
  generalize hst : processInlines cls q toks toks.length 0 ⟨toks.map (·.content.toList), []⟩ = st at hsame hlen
  have hout : ∀ j : Nat, (smartInline cls q toks)[j]? =
      (match toks[j]?, st.contents[j]? with
       | some (t : Tok), some (c : List Char) => some (if t.content.toList = c then t else t.setContent (String.ofList c))
       | _, _ => none) := by
    intro j
    simp only [smartInline, hst]
    rw [List.getElem?_zipWith]
    cases toks[j]? <;> cases st.contents[j]? <;> rfl
  constructor
  · apply AllRel.of_getElem?
    · simp [smartInline, hst, hlen]
    · intro j a b ha hb
      rw [hout j, ha] at hb
      cases hc : st.contents[j]? with
      | none => rw [hc] at hb; cases hb
      | some c =>
        rw [hc] at hb
        simp only [Option.some.injEq] at hb
        subst hb
        by_cases he : editable toks j = true
        · have htext := editable_text toks j a ha he
          split
          · exact SameButText.refl a
          · exact SameButText.setContent a _ htext
        · have := hsame j (by simpa using he)
          rw [hc, List.getElem?_map, ha] at this
          simp only [Option.map_some, Option.some.injEq] at this
          simp [this, SameButText.refl]
  · intro j hj
    rw [hout j]
    cases ha : toks[j]? with
    | none => rfl
    | some a =>
      have := hsame j hj
      rw [List.getElem?_map, ha] at this
      simp only [Option.map_some] at this
      rw [this]
      simp

/-- text inside an autolink is not editable (the flag is on from the `auto` link_open on) -/
example :
    let o := Tok.mk "link_open" "a" 1 [("href", .s "u")] none 0 none "" "autolink" "auto" [] false false
    let x := Tok.mk "text" "" 0 [] none 1 none "a'b" "" "" [] false false
    let c := Tok.mk "link_close" "a" (-1) [] none 0 none "" "autolink" "auto" [] false false
    let y := Tok.mk "text" "" 0 [] none 0 none "'q'" "" "" [] false false
    (editable [o, x, c, y] 1, editable [o, x, c, y] 3) = (false, true) := by decide +kernel

/-- `replaceAt` is the only string edit smartquotes performs; it is in place -/
theorem replaceAt_spec (s : List Char) (i : Nat) (ch : List Char) (hi : i < s.length) :
    (replaceAt s i ch).take i = s.take i ∧ (replaceAt s i ch).drop (i + ch.length) = s.drop (i + 1)
    ∧ (replaceAt s i ch).length = s.length - 1 + ch.length := by
  unfold replaceAt
  have hl : (s.take i).length = i := List.length_take_of_le (Nat.le_of_lt hi)
  refine ⟨?_, ?_, ?_⟩
  · rw [List.append_assoc]
    exact List.take_left' hl
  · exact List.drop_left' (by rw [List.length_append, hl])
  · rw [List.length_append, List.length_append, hl, List.length_drop]
    omega

/-- **T1 obligation** — escaped/entity characters are `text_special` until `text_join`, which runs
after both typographic rules in the core chain of the current source -/
theorem text_join_last :
    Gen.coreRules.idxOf "replacements" < Gen.coreRules.idxOf "text_join"
    ∧ Gen.coreRules.idxOf "smartquotes" < Gen.coreRules.idxOf "text_join"
    ∧ Gen.coreRules.idxOf "inline" < Gen.coreRules.idxOf "replacements" := by decide +kernel

end MdIt.C19
