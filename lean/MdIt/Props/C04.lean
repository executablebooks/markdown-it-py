import MdIt.Proofs.Render
import MdIt.Proofs.Dict
import MdIt.Generated.Tables
/-!
# C04 — the renderer escapes what comes from tokens, passes raw text only for HTML tokens, and takes its vocabulary from the tokens

Model: `MdIt/Render.lean`.  Everything here holds for *every* token stream, not only parser output.  The four sequential `str.replace`
passes of `escapeHtml` equal one per-character pass (`escapeHtml_eq`).  The renderer's output is the flattening of pieces — tags (name
and attributes ` k="v"` with k, v escaped), escaped text, the renderer's own newlines, raw pass-through; `Emits` lists what one token
can contribute.
-/
namespace MdIt.C04

theorem replaceChar_flatMap (c : Char) (b : List Char) (f : Char → List Char) (s : List Char) :
    replaceChar c b (s.flatMap f) = s.flatMap (fun x => replaceChar c b (f x)) := by
  simp [replaceChar, List.flatMap_assoc]

theorem replaceChar_ne {c x : Char} (b : List Char) (h : x ≠ c) : replaceChar c b [x] = [x] := by
  simp [replaceChar, h]

theorem escapeHtml_flatMap (f : Char → List Char) (s : List Char) :
    escapeHtml (s.flatMap f) = s.flatMap (fun x => escapeHtml (f x)) := by
  simp only [escapeHtml, replaceChar_flatMap]

theorem escapeHtml_singleton (x : Char) : escapeHtml [x] = escChar x := by
  unfold escChar
  by_cases h1 : x = '&'
  · subst h1; decide +kernel
  by_cases h2 : x = '<'
  · subst h2; decide +kernel
  by_cases h3 : x = '>'
  · subst h3; decide +kernel
  by_cases h4 : x = '"'
  · subst h4; decide +kernel
  rw [if_neg h1, if_neg h2, if_neg h3, if_neg h4, escapeHtml, replaceChar_ne _ h1, replaceChar_ne _ h2, replaceChar_ne _ h3,
    replaceChar_ne _ h4]

theorem escapeHtml_eq (s : List Char) : escapeHtml s = s.flatMap escChar := by
  conv => lhs; rw [← List.flatMap_singleton' s, escapeHtml_flatMap]
  simp only [escapeHtml_singleton]

inductive EUnit where
  | plain (c : Char) (h : c ≠ '&' ∧ c ≠ '<' ∧ c ≠ '>' ∧ c ≠ '"')
  | amp | lt | gt | quot

def EUnit.str : EUnit → List Char
  | .plain c _ => [c]
  | .amp => "&amp;".toList
  | .lt => "&lt;".toList
  | .gt => "&gt;".toList
  | .quot => "&quot;".toList

def unitOf (x : Char) : EUnit :=
  if h1 : x = '&' then .amp else if h2 : x = '<' then .lt else if h3 : x = '>' then .gt
  else if h4 : x = '"' then .quot else .plain x ⟨h1, h2, h3, h4⟩

theorem escChar_unit (c : Char) : escChar c = (unitOf c).str := by
  unfold unitOf
  -- `EUnit.str` moves under the cascade, which is then the cascade of `escChar`
  simp only [apply_dite EUnit.str]
  rfl

/-- **escapeHtml_units** — escaped text is, character for character of the input, a plain
non-metacharacter or one of the four entities: an input character can neither open a tag, close an
attribute value, nor start an entity of its own. -/
theorem escapeHtml_units (s : List Char) : escapeHtml s = (s.map unitOf).flatMap EUnit.str := by
  rw [escapeHtml_eq, List.flatMap_map]
  exact congrArg (List.flatMap · s) (funext escChar_unit)

theorem EUnit.str_no_meta (u : EUnit) : ∀ c ∈ u.str, c ≠ '<' ∧ c ≠ '>' ∧ c ≠ '"' := by
  cases u with
  | plain x h => intro c hc; rw [List.mem_singleton.1 hc]; exact h.2
  | _ => decide +kernel

theorem escapeHtml_no_meta (s : List Char) : ∀ c ∈ escapeHtml s, c ≠ '<' ∧ c ≠ '>' ∧ c ≠ '"' := by
  rw [escapeHtml_units]
  intro c hc
  obtain ⟨u, _, hu⟩ := List.mem_flatMap.1 hc
  exact u.str_no_meta c hu

/-- **render_pieces** — by definition of the model (and compared with the real renderer's output by the differential ties `render` / `fullrender`):
the rendered string is the flattening of the piece list. -/
theorem render_pieces (x : Ext) (o : ROpts) (ts : List Tok) (s : List Char) (h : render x o ts = .ok s) :
    ∃ ps, renderP x o none ts = .ok ps ∧ s = ps.flatMap Piece.str := by
  unfold render at h
  cases hp : renderP x o none ts with
  | error e => rw [hp] at h; cases h
  | ok ps => rw [hp] at h; exact ⟨ps, rfl, by cases h; rfl⟩

theorem renderInlineP_mem {x : Ext} {o : ROpts} {p : Piece} :
    ∀ {ts : List Tok} {prev : Option Tok} {ps : List Piece}, renderInlineP x o prev ts = .ok ps → p ∈ ps →
      ∃ prev' t next' ps', t ∈ ts ∧ renderOne x o prev' t next' = .ok ps' ∧ p ∈ ps' := by
  intro ts
  induction ts with
  | nil => intro prev ps h hp; cases h; cases hp
  | cons t rest ih =>
    intro prev ps h hp
    obtain ⟨p1, p2, h1, h2, rfl⟩ := seqE_ok h
    rcases List.mem_append.1 hp with hp | hp
    · exact ⟨prev, t, _, p1, List.mem_cons_self, h1, hp⟩
    · obtain ⟨prev', u, next', ps', hu, h', hp'⟩ := ih h2 hp
      exact ⟨prev', u, next', ps', List.mem_cons_of_mem _ hu, h', hp'⟩

/-- all tokens the renderer looks at: the stream and the children of its `inline` tokens -/
def visible : List Tok → List Tok
  | [] => []
  | t :: ts => (if t.type == "inline" then (t.children.getD []) else [t]) ++ visible ts

theorem renderP_mem {x : Ext} {o : ROpts} {p : Piece} :
    ∀ {ts : List Tok} {prev : Option Tok} {ps : List Piece}, renderP x o prev ts = .ok ps → p ∈ ps →
      ∃ prev' t next' ps', t ∈ visible ts ∧ renderOne x o prev' t next' = .ok ps' ∧ p ∈ ps' := by
  intro ts
  induction ts with
  | nil => intro prev ps h hp; cases h; cases hp
  | cons t rest ih =>
    intro prev ps h hp
    rw [renderP_cons] at h
    obtain ⟨p1, p2, h1, h2, rfl⟩ := seqE_ok h
    rcases List.mem_append.1 hp with hp | hp
    · by_cases hin : (t.type == "inline") = true
      · rw [if_pos hin] at h1
        obtain ⟨prev', u, next', ps', hu, h', hp'⟩ := renderInlineP_mem h1 hp
        exact ⟨prev', u, next', ps', by simp [visible, hin, hu], h', hp'⟩
      · rw [if_neg hin] at h1
        exact ⟨prev, t, _, p1, by simp [visible, hin], h1, hp⟩
    · obtain ⟨prev', u, next', ps', hu, h', hp'⟩ := ih h2 hp
      exact ⟨prev', u, next', ps', by simp [visible, hu], h', hp'⟩

theorem attrJoinClass_keys {attrs a : List (String × AttrVal)} {v : List Char} (h : attrJoinClass attrs v = .ok a) :
    ∀ kv ∈ a, kv.1 = "class" ∨ kv ∈ attrs := by
  have key (w : AttrVal) : ∀ kv ∈ dictSet attrs "class" w, kv.1 = "class" ∨ kv ∈ attrs := fun kv hkv =>
    (mem_dictSet hkv).imp (fun e => by rw [e]) And.left
  unfold attrJoinClass at h
  split at h
  · cases h; exact key _
  · cases h
  · cases h; exact key _

/-- What `renderOne` can put out for a token `t`: the renderer's own newline; `t`'s content, escaped, or raw if `t` is an HTML token;
`renderToken`'s tag for `t` itself or for `t` with its `alt` written; a `pre` / `code` / `br` tag with no attributes, with `t`'s, or
with `t`'s after `attrJoin("class", …)`.  `no_raw` and `vocab` are read off this list. -/
inductive Emits (o : ROpts) (t : Tok) : Piece → Prop
  | nl : Emits o t .nl
  | text : Emits o t (.text t.content.toList)
  | raw : (t.type == "html_block" || t.type == "html_inline") = true → Emits o t (.raw t.content.toList)
  | own {u : Tok} : u = t ∨ u = setAlt t →
      Emits o t (.tag (u.nesting == -1) u.tag.toList (attrsP u.attrs) (u.nesting == 0 && o.xhtmlOut))
  | fixed (closing slash : Bool) (name : String) (a : List (String × AttrVal)) : name ∈ ["pre", "code", "br"] →
      (a = [] ∨ a = t.attrs ∨ ∃ v, attrJoinClass t.attrs v = .ok a) → Emits o t (.tag closing name.toList (attrsP a) slash)

theorem renderOne_emits {x : Ext} {o : ROpts} {prev next : Option Tok} {t : Tok} {ps : List Piece}
    (h : renderOne x o prev t next = .ok ps) : ∀ p ∈ ps, Emits o t p := by
  have tok (u : Tok) (hu : u = t ∨ u = setAlt t) : ∀ p ∈ renderTokenP o prev u next, Emits o t p := by
    intro p hp
    rcases renderTokenP_mem hp with rfl | rfl
    · exact .nl
    · exact .own hu
  have block (a1 a2) (h1 : a1 = [] ∨ a1 = t.attrs ∨ ∃ v, attrJoinClass t.attrs v = .ok a1)
      (h2 : a2 = [] ∨ a2 = t.attrs ∨ ∃ v, attrJoinClass t.attrs v = .ok a2) : ∀ p ∈ codeBlockP (attrsP a1) (attrsP a2) t, Emits o t p := by
    simp only [codeBlockP, List.forall_mem_cons]
    exact ⟨.fixed _ _ "pre" a1 (by decide) h1, .fixed _ _ "code" a2 (by decide) h2, .text, .fixed _ _ "code" [] (by decide) (.inl rfl),
      .fixed _ _ "pre" [] (by decide) (.inl rfl), .nl, nofun⟩
  have brk : ∀ p ∈ br o, Emits o t p := by
    simp only [br, List.forall_mem_cons]
    exact ⟨.fixed _ _ "br" [] (by decide) (.inl rfl), .nl, nofun⟩
  have one (q : Piece) (hq : Emits o t q) : ∀ p ∈ [q], Emits o t p := fun p hp => List.mem_singleton.1 hp ▸ hq
  rw [renderOne_eq] at h
  generalize kindOf t.type = k at h
  cases k
  case codeInline =>
    cases h
    simp only [List.forall_mem_cons]
    exact ⟨.fixed _ _ "code" _ (by decide) (.inr (.inl rfl)), .text, .fixed _ _ "code" [] (by decide) (.inl rfl), nofun⟩
  case codeBlock => cases h; exact block _ [] (.inr (.inl rfl)) (.inl rfl)
  case fence =>
    obtain ⟨a, ha, rfl⟩ := renderKind_fence_ok h
    exact block [] a (.inl rfl) (.inr (ha.imp_right id))
  case image => cases h; exact tok _ (.inr rfl)
  case hardbreak => cases h; exact brk
  case softbreak =>
    cases h
    cases o.breaks
    · exact one _ .nl
    · exact brk
  case text => cases h; exact one _ .text
  case html hh => cases h; exact one _ (.raw hh)
  case definition => cases h; nofun
  case other => cases h; exact tok t (.inl rfl)

def isRaw : Piece → Bool
  | .raw _ => true
  | _ => false

/-- **C04.no_raw** — if neither the stream nor the children of its inline tokens contain an
`html_block` / `html_inline` token, no piece of the output is raw pass-through: all input-derived
characters appear escaped (in text) or escaped inside a quoted attribute value. -/
theorem no_raw (x : Ext) (o : ROpts) (ts : List Tok) (ps : List Piece)
    (hq : ∀ t ∈ visible ts, (t.type == "html_block" || t.type == "html_inline") = false)
    (h : renderP x o none ts = .ok ps) : ∀ p ∈ ps, isRaw p = false := by
  intro p hp
  obtain ⟨prev, t, next, ps, ht, h, hp⟩ := renderP_mem h hp
  cases renderOne_emits h p hp with
  | raw hh => rw [hq t ht] at hh; cases hh
  | _ => rfl

def PieceVocab (N K : List Char → Prop) : Piece → Prop
  | .tag _ name attrs _ => N name ∧ ∀ kv ∈ attrs, K kv.1
  | _ => True

def TokVocab (N K : List Char → Prop) (t : Tok) : Prop :=
  N t.tag.toList ∧ ∀ kv ∈ t.attrs, K kv.1.toList

theorem attrsP_keys (K : List Char → Prop) (attrs : List (String × AttrVal))
    (h : ∀ kv ∈ attrs, K kv.1.toList) : ∀ kv ∈ attrsP attrs, K kv.1 := by
  intro kv hkv
  simp only [attrsP, List.mem_map] at hkv
  obtain ⟨a, ha, rfl⟩ := hkv
  exact h a ha

/-- **C04.vocab** — every tag name in the output is the `tag` of a token of the stream (or one of the
renderer's fixed `pre`, `code`, `br`), and every attribute name is an attribute key of a token (or
`alt`, `class`): no element or attribute name can come from anywhere else — in particular not from
token *content*.  With T1's table of the `(type, tag)` vocabulary of every `push(..)` site this gives
the fixed element/attribute vocabulary of the property. -/
theorem vocab (N K : List Char → Prop) (x : Ext) (o : ROpts) (ts : List Tok) (ps : List Piece)
    (hq : ∀ t ∈ visible ts, TokVocab N K t)
    (hpre : N "pre".toList) (hcode : N "code".toList) (hbr : N "br".toList)
    (halt : K "alt".toList) (hclass : K "class".toList)
    (h : renderP x o none ts = .ok ps) : ∀ p ∈ ps, PieceVocab N K p := by
  intro p hp
  obtain ⟨prev, t, next, ps, ht, h, hp⟩ := renderP_mem h hp
  replace ht := hq t ht
  cases renderOne_emits h p hp with
  | nl | text | raw => trivial
  | own hu =>
    rcases hu with rfl | rfl
    · exact ⟨ht.1, attrsP_keys K _ ht.2⟩
    · exact ⟨setAlt_tag t ▸ ht.1, attrsP_keys K _ fun kv hkv => (setAlt_keys t kv hkv).elim (fun e => e ▸ halt) (ht.2 kv)⟩
  | fixed _ _ _ _ hn ha =>
    refine ⟨?_, attrsP_keys K _ fun kv hkv => ?_⟩
    · simp only [List.mem_cons, List.mem_nil_iff, or_false] at hn
      rcases hn with rfl | rfl | rfl <;> assumption
    · rcases ha with rfl | rfl | ⟨v, hv⟩
      · cases hkv
      · exact ht.2 kv hkv
      · exact (attrJoinClass_keys hv kv hkv).elim (fun e => e ▸ hclass) (ht.2 kv)

/-- the property's fixed vocabulary -/
def Elements : List String :=
  ["p", "h1", "h2", "h3", "h4", "h5", "h6", "blockquote", "ul", "ol", "li", "pre", "code", "em", "strong", "s",
   "a", "img", "br", "hr", "table", "thead", "tbody", "tr", "th", "td"]
def Attrs : List String := ["href", "title", "src", "alt", "start", "style", "class"]

/-- **T1 obligation** — every tag literal at a token-producing site of the *current* source is an
element of the fixed vocabulary (or empty: text/inline/html/definition tokens, which never reach
`renderToken`), every attribute key literal is in the fixed attribute set.  Re-checked whenever the
source changes (the table is regenerated before every build). -/
theorem table_tags : ∀ t ∈ Gen.pushTags, t = "" ∨ t ∈ Elements := by decide +kernel
theorem table_keys : ∀ k ∈ Gen.attrKeys, k ∈ Attrs := by decide +kernel

/-- `vocab` instantiated with the fixed vocabulary: if every visible token's tag is an element name
and its attribute keys are attribute names, so is every tag and attribute of the output. -/
theorem vocab_fixed (x : Ext) (o : ROpts) (ts : List Tok) (ps : List Piece)
    (hq : ∀ t ∈ visible ts, t.tag ∈ Elements ∧ ∀ kv ∈ t.attrs, kv.1 ∈ Attrs)
    (h : renderP x o none ts = .ok ps) :
    ∀ p ∈ ps, PieceVocab (fun n => String.ofList n ∈ Elements) (fun k => String.ofList k ∈ Attrs) p :=
  vocab _ _ x o ts ps (fun t ht => ⟨by simpa using (hq t ht).1, fun kv hkv => by simpa using (hq t ht).2 kv hkv⟩)
    (by decide +kernel) (by decide +kernel) (by decide +kernel) (by decide +kernel) (by decide +kernel) h

/-! non-vacuity: a concrete stream (a paragraph holding text with all four metacharacters and an image) -/
def demoToks : List Tok :=
  [.mk "paragraph_open" "p" 1 [] (some (0, 1)) 0 none "" "" "" [] true false,
   .mk "inline" "" 0 [] (some (0, 1)) 1 (some [
      .mk "text" "" 0 [] none 0 none "a<b>&\"" "" "" [] false false,
      .mk "image" "img" 0 [("src", .s "u"), ("alt", .s "")] none 0 (some [.mk "text" "" 0 [] none 0 none "x\"y" "" "" [] false false]) "" "" "" [] false false])
      "" "" "" [] true false,
   .mk "paragraph_close" "p" (-1) [] none 0 none "" "" "" [] true false]

def okStr : Except PyErr (List Char) → String
  | .ok s => String.ofList s
  | .error _ => "error"

example : okStr (render ⟨fun _ => none⟩ ⟨false, false, "language-".toList⟩ demoToks)
    = "<p>a&lt;b&gt;&amp;&quot;<img src=\"u\" alt=\"x&quot;y\"></p>\n" := by decide +kernel

end MdIt.C04
