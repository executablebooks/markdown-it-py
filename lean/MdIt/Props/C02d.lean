import MdIt.Props.C02c
import MdIt.Props.C01d
/-!
# C02 / C03 / C10 (continued) — the token stream of the list rule

What a matched list appends is `open(map patched) ++ items ++ close` up to the `hidden` flags `markTightParagraphs` sets (`HidEq`);
each item is `item_open(map patched) ++ (tokens of the nested run, or nothing for the empty-item workaround) ++ item_close`; items
follow each other with increasing, adjacent line ranges (`ItemChain`).  A segment predicate passes through the list when it
survives both wrappings and ignores `hidden` (`ListWrap`).
-/
namespace MdIt.C02
open MdIt.C01

/-- equal up to the `hidden` flags -/
def HidEq (a b : List Tok) : Prop := a.map (·.setHidden false) = b.map (·.setHidden false)

theorem HidEq.refl (a : List Tok) : HidEq a a := rfl
theorem HidEq.symm {a b : List Tok} (h : HidEq a b) : HidEq b a := Eq.symm h

theorem HidEq.mem {a b : List Tok} (h : HidEq a b) {t : Tok} (ht : t ∈ a) : ∃ u ∈ b, t.setHidden false = u.setHidden false := by
  have hm : t.setHidden false ∈ a.map (·.setHidden false) := List.mem_map.2 ⟨t, ht, rfl⟩
  rw [show a.map (·.setHidden false) = b.map (·.setHidden false) from h, List.mem_map] at hm
  obtain ⟨u, hu, he⟩ := hm
  exact ⟨u, hu, he.symm⟩

@[simp] theorem setAttrs_map (t : Tok) (a) : (t.setAttrs a).map = t.map := t.setAttrs_map a

theorem modify_hidden (ts : List Tok) (i : Nat) : HidEq (ts.modify i (·.setHidden true)) ts :=
  map_modify_eq _ _ (fun t => t.setHidden_setHidden true false) ts i

theorem markTightGo_hidEq (level : Int) (fuel i : Nat) (ts : List Tok) : HidEq (markTightGo level fuel i ts) ts := by
  fun_induction markTightGo level fuel i ts
  case case2 ih => exact ih.trans ((modify_hidden _ _).trans (modify_hidden _ _))  -- a paragraph of the list: both its tokens hidden
  case case3 ih => exact ih  -- any other token
  all_goals rfl  -- the pass stops: out of fuel; no token at `i`; fewer than three tokens left

theorem markTight_spec (level : Int) (pre seg : List Tok) :
    ∃ seg', markTight level pre.length (pre ++ seg) = pre ++ seg' ∧ HidEq seg' seg :=
  ⟨_, markTightGo_prefix (level + 2) pre _ 2 seg, markTightGo_hidEq ..⟩

theorem listFinish_line (s : BState) (ordered : Bool) (mc : Char) (sl : Nat) (st : ListSt) :
    (listFinish s ordered mc sl st).line = st.startLine ∧ (listFinish s ordered mc sl st).lines = st.s.lines := by
  rw [listFinish_eq]
  exact ⟨rfl, rfl⟩

theorem listFinish_tokens (s : BState) (ordered : Bool) (mc : Char) (sl : Nat) (st : ListSt) (x : Tok) (mid : List Tok)
    (ht : st.s.tokens = s.tokens ++ x :: mid) :
    ∃ seg', (listFinish s ordered mc sl st).tokens = s.tokens ++ seg' ∧
      HidEq seg' ([x.setMap (some (sl, st.startLine))] ++ mid ++ [pushedTok st.s (if ordered then "ordered_list_close" else "bullet_list_close")
        (if ordered then "ol" else "ul") (-1) none none "" (String.singleton mc) ""]) := by
  have htoks : (st.s.pushFull (if ordered then "ordered_list_close" else "bullet_list_close") (if ordered then "ol" else "ul") (-1)
        none none "" (String.singleton mc) "").tokens.modify s.tokens.length (fun t => t.setMap (some (sl, st.startLine)))
      = s.tokens ++ ([x.setMap (some (sl, st.startLine))] ++ mid ++ [pushedTok st.s (if ordered then "ordered_list_close" else "bullet_list_close")
        (if ordered then "ol" else "ul") (-1) none none "" (String.singleton mc) ""]) := by
    rw [pushFull_tokens, ht]
    simp only [List.append_assoc, List.cons_append, List.nil_append]
    rw [modify_append_len]
  unfold listFinish
  simp only
  split
  · show ∃ seg', markTight _ s.tokens.length (List.modify _ _ _) = _ ∧ _
    rw [htoks]; exact markTight_spec _ _ _
  · exact ⟨_, htoks, HidEq.refl _⟩

/-- `s` enters the item and `s6` leaves it; `s2` is the state its nested part starts from (`list_item_open` pushed, the first line
    re-indented) and `s3` what that part left: `s2` moved over an empty item (first disjunct) or the result of the nested run -/
theorem listItem_tokens (ordered : Bool) (markerChar : Char) (inner : List BRule) (mn : Int) (endLine : Nat) (s : BState)
    (startLine markerLen : Nat) (s6 : BState) (nt pe : Bool)
    (h : listItem ordered markerChar inner mn endLine s startLine markerLen = .ok (s6, nt, pe)) :
    ∃ (s2 s3 : BState) (openT closeT : Tok),
      s2.tokens = s.tokens ++ [openT] ∧ s2.level = s.level + 1 ∧ s2.lineMax = s.lineMax ∧ s2.lines.length = s.lines.length ∧
      ((s3.tokens = s2.tokens ∧ s3.level = s2.level) ∨ blockTokenize inner mn s2 startLine endLine = .ok s3) ∧
      (∀ innerToks, s3.tokens = s2.tokens ++ innerToks →
        s6.tokens = s.tokens ++ ([openT.setMap (some (startLine, s3.line))] ++ innerToks ++ [closeT])) ∧
      openT.nesting = 1 ∧ openT.level = s.level ∧ openT.type = "list_item_open" ∧
      closeT.nesting = -1 ∧ closeT.level = s3.level - 1 ∧ closeT.type = "list_item_close" ∧ closeT.map = none ∧ s6.line = s3.line
      ∧ SufLines s.lines s2.lines := by
  obtain ⟨l, s3, lcur, hg, hnest, rfl⟩ := listItem_result h
  refine ⟨itemEnter ordered markerChar s l startLine markerLen, s3, _,
    pushedTok s3 "list_item_close" "li" (-1) none none "" (String.singleton markerChar) "", itemEnter_tokens .., itemEnter_level .., rfl,
    by rw [itemEnter_lines, List.length_set], hnest.imp (fun h3 => by rw [h3]; exact ⟨rfl, rfl⟩) id, ?_, rfl, rfl, rfl, rfl, rfl, rfl, rfl, rfl, ?_⟩
  · intro innerToks h3
    show List.modify (s3.tokens ++ [_]) s.tokens.length _ = _
    rw [h3, itemEnter_tokens]
    exact modify_wrap ..
  · exact (SufLines.refl s.lines).set startLine l _ (here_of_getL hg) (List.suffix_refl _) rfl

/-- segments of consecutive items: the item from line `a` ends on line `b`, where the next one starts -/
inductive ItemChain (T : BState → Nat → Nat → List Tok → Prop) (s : BState) : Nat → Nat → List Tok → Prop where
  | nil (a : Nat) : ItemChain T s a a []
  | cons (a b e : Nat) (seg rest : List Tok) : a < b → T s a b seg → ItemChain T s b e rest → ItemChain T s a e (seg ++ rest)

theorem ItemChain.le {T s a e toks} (h : ItemChain T s a e toks) : a ≤ e := by
  induction h with
  | nil => exact Nat.le_refl _
  | cons a b e seg rest h1 _ _ ih => omega

theorem ItemChain.frame {T} (hT : ∀ s s' a b seg, s.FrameEq s' → T s a b seg → T s' a b seg) {s s' a e toks} (hf : s.FrameEq s')
    (h : ItemChain T s a e toks) : ItemChain T s' a e toks := by
  induction h with
  | nil => exact .nil _
  | cons a b e seg rest h1 h2 _ ih => exact .cons a b e seg rest h1 (hT _ _ _ _ _ hf h2) ih

theorem listItems_chain (T : BState → Nat → Nat → List Tok → Prop) (hT : ∀ s s' a b seg, s.FrameEq s' → T s a b seg → T s' a b seg)
    (mn : Int) (d : Nat) (codeOn ordered : Bool) (markerChar : Char) (terms : List BRule) (hin : ∀ t ∈ terms, SilentInert t)
    (inner : List BRule) (hinner : InnerOK mn d inner) (endLine : Nat)
    (hitem : ∀ (s : BState) (startLine markerLen : Nat) (s6 : BState) (nt pe : Bool), s.lineMax + 1 ≤ s.lines.length → endLine ≤ s.lineMax →
      startLine < endLine → s.line = startLine → mn + 1 ≤ s.level + 1 + (d : Int) →
      listItem ordered markerChar inner mn endLine s startLine markerLen = .ok (s6, nt, pe) →
      ∃ seg, s6.tokens = s.tokens ++ seg ∧ T s startLine s6.line seg) :
    ∀ (fuel : Nat) (st st' : ListSt), endLine - st.startLine < fuel → st.s.lineMax + 1 ≤ st.s.lines.length → endLine ≤ st.s.lineMax →
      st.s.line = st.startLine → mn + 1 ≤ st.s.level + 1 + (d : Int) → st.startLine ≤ st.s.lineMax →
      listItems codeOn ordered markerChar terms inner mn endLine fuel st = .ok st' →
      ∃ toks, st'.s.tokens = st.s.tokens ++ toks ∧ ItemChain T st.s st.startLine st'.startLine toks := by
  intro fuel
  induction fuel with
  | zero => intro st st' h; omega
  | succ n ih =>
    intro st st' hf hlen hend hline hlv hsm h
    rw [listItems_succ] at h
    split at h
    · cases h; exact ⟨[], by simp, .nil _⟩
    · rename_i hlt
      have hlt' : st.startLine < endLine := by simpa using hlt
      obtain ⟨s6, nt, pe, hitm, hf6, hgt6, hle6⟩ := listItem_ok mn d ordered markerChar inner hinner endLine st.s st.startLine st.markerLen
        hlen hend hlt' hline hlv
      obtain ⟨seg, hseg, hTseg⟩ := hitem st.s st.startLine st.markerLen s6 nt pe hlen hend hlt' hline hlv hitm
      obtain ⟨o, hnext⟩ := listNext_inert codeOn ordered markerChar terms hin endLine s6 (by rw [hf6.lines]; omega)
      simp only [hitm, hnext] at h
      cases o with
      | none =>
        cases h
        exact ⟨seg, hseg, by simpa using ItemChain.cons (T := T) st.startLine s6.line s6.line seg [] hgt6 hTseg (.nil _)⟩
      | some mlen =>
        obtain ⟨toks, h1, h2⟩ := ih _ st' (by show endLine - s6.line < n; omega) (by rw [hf6.lines, hf6.lineMax]; exact hlen)
          (by rw [hf6.lineMax]; exact hend) rfl (by rw [hf6.level]; exact hlv) (by show s6.line ≤ s6.lineMax; rw [hf6.lineMax]; exact hle6) h
        refine ⟨seg ++ toks, ?_, .cons _ s6.line _ seg toks hgt6 hTseg (ItemChain.frame hT (frameEq_symm hf6) h2)⟩
        rw [h1]; show s6.tokens ++ toks = _; rw [hseg, List.append_assoc]

/-- `s` enters the list and `s'` leaves it; `s2` is the state the item loop starts from (the list's opening token pushed); `toks` are
    the items' tokens, one `T`-segment per item (`hitem`), and `seg'` is all the list appended -/
theorem listRun_tokens (T : BState → Nat → Nat → List Tok → Prop) (hT : ∀ s s' a b seg, s.FrameEq s' → T s a b seg → T s' a b seg)
    (mn : Int) (d : Nat) (codeOn ordered : Bool) (markerChar : Char) (mlen mv : Nat) (terms : List BRule) (hin : ∀ t ∈ terms, SilentInert t)
    (inner : List BRule) (hinner : InnerOK mn d inner) (s : BState) (line endLine : Nat)
    (hitem : ∀ (s : BState) (startLine markerLen : Nat) (s6 : BState) (nt pe : Bool), s.lineMax + 1 ≤ s.lines.length → endLine ≤ s.lineMax →
      startLine < endLine → s.line = startLine → mn + 1 ≤ s.level + 1 + (d : Int) →
      listItem ordered markerChar inner mn endLine s startLine markerLen = .ok (s6, nt, pe) →
      ∃ seg, s6.tokens = s.tokens ++ seg ∧ T s startLine s6.line seg)
    (hc : CallCtx (Lv mn (d + 1)) s line endLine) (s' : BState)
    (h : listRun codeOn ordered markerChar mlen mv terms inner mn s line endLine = .ok (true, s')) :
    ∃ (s2 : BState) (openT closeT : Tok) (toks seg' : List Tok),
      s.FrameEq' s2 ∧ ItemChain T s2 line s'.line toks ∧ line < s'.line ∧
      s'.tokens = s.tokens ++ seg' ∧ HidEq seg' ([openT.setMap (some (line, s'.line))] ++ toks ++ [closeT]) ∧
      openT.nesting = 1 ∧ openT.level = s.level ∧ openT.type = (if ordered then "ordered_list_open" else "bullet_list_open") ∧
      closeT.nesting = -1 ∧ closeT.level = s.level ∧ closeT.type = (if ordered then "ordered_list_close" else "bullet_list_close") ∧
      closeT.map = none := by
  rw [listRun_eq] at h
  have hs2f := listOpenState_frame s ordered markerChar mv line
  have hopen := listOpenState_tokens s ordered markerChar mv line
  obtain ⟨ho1, ho2, ho3⟩ := listOpenTok_fields s ordered markerChar mv line
  generalize listOpenState s ordered markerChar mv line = s2 at h hs2f hopen
  generalize listOpenTok s ordered markerChar mv line = openT at hopen ho1 ho2 ho3
  obtain ⟨a1, a2, a3, a4, a5⟩ := listOpen_ctx hc hs2f
  obtain ⟨st, hst, hfst, _, hgt, hle⟩ := listItems_ok mn d codeOn ordered markerChar terms hin inner hinner endLine (endLine - line + 1)
    { s := s2, startLine := line, markerLen := mlen, tight := true, prevEmptyEnd := false }
    (by show endLine - line < endLine - line + 1; omega) a1 a2 a3 a4 a5
  obtain ⟨toks, htoks, hchain⟩ := listItems_chain T hT mn d codeOn ordered markerChar terms hin inner hinner endLine hitem (endLine - line + 1)
    { s := s2, startLine := line, markerLen := mlen, tight := true, prevEmptyEnd := false } st
    (by show endLine - line < endLine - line + 1; omega) a1 a2 a3 a4 a5 hst
  simp only [hst] at h
  have hlvl : st.s.level = s.level + 1 := by rw [hfst.level]; exact hs2f.level
  have hclose : (pushedTok st.s (if ordered = true then "ordered_list_close" else "bullet_list_close") (if ordered = true then "ol" else "ul") (-1) none none "" (String.singleton markerChar) "").level = s.level := by
    simp [pushedTok, Tok.level, hlvl]
  simp only [Except.ok.injEq, Prod.mk.injEq, true_and] at h
  subst h
  obtain ⟨seg', hm1, hm2⟩ := listFinish_tokens s ordered markerChar line st openT toks (by rw [htoks, hopen, List.append_assoc]; rfl)
  have hline := (listFinish_line s ordered markerChar line st).1
  exact ⟨s2, openT, _, toks, seg', hs2f, hline ▸ hchain, hline ▸ hgt hc.lt, hm1, hline ▸ hm2, ho1, ho2, ho3, rfl, hclose, rfl, rfl⟩

/-- a segment predicate that survives the list wrappings (list and item) and ignores `hidden` -/
structure ListWrap (S : BState → List Tok → Prop) : Prop where
  hid : ∀ s seg seg', HidEq seg' seg → S s seg → S s seg'
  wrap : ∀ (s s2 : BState) (openT closeT : Tok) (m : Option (Nat × Nat)) (segs : List (List Tok)),
      s2.level = s.level + 1 → SufLines s.lines s2.lines → openT.nesting = 1 → openT.level = s.level → closeT.nesting = -1 → closeT.level = s.level →
      (openT.type, closeT.type) ∈ [("list_item_open", "list_item_close"), ("bullet_list_open", "bullet_list_close"),
        ("ordered_list_open", "ordered_list_close")] →
      (∀ g ∈ segs, S s2 g) → S s ([openT.setMap m] ++ segs.flatten ++ [closeT])

theorem listWrap_tokens (Q : List BLine → Tok → Prop) (hsuf : ∀ a b t, SufLines a b → Q b t → Q a t)
    (hhid : ∀ lines (t u : Tok), t.setHidden false = u.setHidden false → Q lines u → Q lines t)
    (hwrap : ∀ lines (t : Tok), t.type ∈ ["list_item_open", "list_item_close", "bullet_list_open", "bullet_list_close",
      "ordered_list_open", "ordered_list_close"] → Q lines t) :
    ListWrap (Toks Q) := by
  refine ⟨?_, ?_⟩
  · intro s seg seg' hh hS t ht
    obtain ⟨u, hu, he⟩ := hh.mem ht
    exact hhid _ t u he (hS u hu)
  · intro s s2 openT closeT m segs _ hs _ _ _ _ hty hS t ht
    simp only [List.mem_append, List.mem_singleton, List.mem_flatten] at ht
    simp only [List.mem_cons, Prod.mk.injEq, List.not_mem_nil, or_false] at hty
    rcases ht with (rfl | ⟨g, hg, htg⟩) | rfl
    · rcases hty with ⟨h, _⟩ | ⟨h, _⟩ | ⟨h, _⟩ <;> exact hwrap _ _ (by simp [h])
    · exact hsuf _ _ _ hs (hS g hg t htg)
    · rcases hty with ⟨_, h⟩ | ⟨_, h⟩ | ⟨_, h⟩ <;> exact hwrap _ _ (by simp [h])

theorem ItemChain.segs {S : BState → List Tok → Prop} {s a e toks} (h : ItemChain (fun s _ _ seg => S s seg) s a e toks) :
    ∃ segs : List (List Tok), toks = segs.flatten ∧ ∀ g ∈ segs, S s g := by
  induction h with
  | nil => exact ⟨[], rfl, by simp⟩
  | cons a b e seg rest _ h2 _ ih =>
    obtain ⟨segs, h3, h4⟩ := ih
    refine ⟨seg :: segs, by simp [h3], ?_⟩
    intro g hg
    simp only [List.mem_cons] at hg
    rcases hg with rfl | hg
    · exact h2
    · exact h4 g hg

theorem ruleList_hit (codeOn : Bool) (terms inner : List BRule) (mn : Int) (s : BState) (line endLine : Nat) (s' : BState)
    (h : ruleList codeOn terms inner mn s line endLine false = .ok (true, s')) :
    ∃ ordered mc mlen mv, listRun codeOn ordered mc mlen mv terms inner mn s line endLine = .ok (true, s') := by
  cases hg : getL s line with
  | error e => rw [ruleList_eq, hg] at h; cases h
  | ok l =>
    rcases ruleList_cases codeOn terms inner mn s line endLine false hg with h' | ⟨ordered, mc, mlen, h'⟩
    · rw [h'] at h; cases h
    · exact ⟨ordered, mc, mlen, _, h'.symm.trans h⟩

theorem segOK_list (S : BState → List Tok → Prop) (hw : QuoteWrap S) (hlw : ListWrap S) (mn : Int) (d : Nat) (codeOn : Bool)
    (terms : List BRule) (hin : ∀ t ∈ terms, SilentInert t) (inner : List BRule) (hinner : InnerOK mn d inner)
    (hsegs : InnerSegs S mn d inner) : SegOK (Lv mn (d + 1)) S (ruleList codeOn terms inner mn) := by
  have key := list_shape mn d codeOn terms hin inner hinner
  refine ⟨?_, ?_⟩
  · intro s line endLine s' hc h
    obtain ⟨ordered, mc, mlen, mv, hrun⟩ := ruleList_hit _ _ _ _ _ _ _ _ h
    have hitem : ∀ (s : BState) (startLine markerLen : Nat) (s6 : BState) (nt pe : Bool), s.lineMax + 1 ≤ s.lines.length → endLine ≤ s.lineMax →
        startLine < endLine → s.line = startLine → mn + 1 ≤ s.level + 1 + (d : Int) →
        listItem ordered mc inner mn endLine s startLine markerLen = .ok (s6, nt, pe) →
        ∃ seg, s6.tokens = s.tokens ++ seg ∧ S s seg := by
      intro s startLine markerLen s6 nt pe hlen hend hlt hline hlv hit
      obtain ⟨s2, s3, openT, closeT, h2t, h2l, h2m, h2len, hnest, htok, ho1, ho2, ho3, hc1, hc2, hc3, _, _, hsuf2⟩ :=
        listItem_tokens _ _ _ _ _ _ _ _ _ _ _ hit
      rcases hnest with ⟨h3t, h3l⟩ | hrun3
      · refine ⟨_, htok [] (by rw [h3t]; simp), ?_⟩
        have := hlw.wrap s s2 openT closeT (some (startLine, s3.line)) [] h2l hsuf2 ho1 ho2 hc1 (by rw [hc2, h3l, h2l]; omega)
          (by rw [ho3, hc3]; simp) (by simp)
        simpa using this
      · have hlen2 : s2.lineMax + 1 ≤ s2.lines.length := by rw [h2m, h2len]; exact hlen
        have hend2 : endLine ≤ s2.lineMax := by rw [h2m]; exact hend
        have hlv2 : Lv mn d s2 endLine := by unfold Lv; rw [h2l]; omega
        obtain ⟨segs, hs3, hS⟩ := hsegs s2 startLine endLine s3 hlen2 hend2 hlv2 hrun3
        obtain ⟨s3', hrun', hfr3, _⟩ := hinner s2 startLine endLine hlen2 hend2 hlv2
        rw [hrun3] at hrun'; cases hrun'
        exact ⟨_, htok _ hs3, hlw.wrap s s2 openT closeT (some (startLine, s3.line)) segs h2l hsuf2 ho1 ho2 hc1
          (by rw [hc2, hfr3.level, h2l]; omega) (by rw [ho3, hc3]; simp) hS⟩
    obtain ⟨s2, openT, closeT, toks, seg', hf2, hchain, _, htok, hhid, ho1, ho2, ho3, hc1, hc2, hc3, _⟩ :=
      listRun_tokens (fun s _ _ seg => S s seg) (fun s s' _ _ seg hf h => hw.closed s s' seg hf h) mn d codeOn ordered mc mlen mv
        terms hin inner hinner s line endLine hitem hc s' hrun
    obtain ⟨segs, hsegs, hS⟩ := hchain.segs
    refine ⟨seg', htok, hlw.hid _ _ _ hhid ?_⟩
    rw [hsegs]
    exact hlw.wrap s s2 openT closeT (some (line, s'.line)) segs hf2.level (by rw [hf2.lines]; exact SufLines.refl _) ho1 ho2 hc1 hc2
      (by rw [ho3, hc3]; cases ordered <;> simp) hS
  · exact fun s line endLine s' hc h => by rw [miss_of_cases (key s line endLine hc) h]

theorem tower_segL {mn : Int} {leaves : List BRule} {lst : Bool} {ch : Nat → List BRule} (T : Tower mn leaves lst ch)
    (hok : ∀ d : Nat, (∀ r ∈ ch d, RuleOK (Lv mn d) r) ∧ InnerOK mn d (ch d)) (S : BState → List Tok → Prop) (hw : QuoteWrap S)
    (hlw : ListWrap S) (hleaf : ∀ (P : BState → Nat → Prop), ∀ r ∈ leaves, SegOK P S r) : ∀ d : Nat,
    (∀ r ∈ ch d, SegOK (Lv mn d) S r) ∧ InnerSegs S mn d (ch d) :=
  tower_seg T hok S hw (fun _ => segOK_list S hw hlw mn) hleaf

theorem lChain_seg (S : BState → List Tok → Prop) (hw : QuoteWrap S) (hlw : ListWrap S) (c : MiniCfg) (ws : List Nat) (mn : Int)
    (hleaf : ∀ (P : BState → Nat → Prop), ∀ r ∈ lLeaves c ws mn, SegOK P S r) : ∀ d : Nat,
    (∀ r ∈ lChain c ws mn d, SegOK (Lv mn d) S r) ∧ InnerSegs S mn d (lChain c ws mn d) :=
  tower_segL (lTower c ws mn) (lChain_ok c ws mn) S hw hlw hleaf

theorem lParse_segs (S : BState → List Tok → Prop) (hw : QuoteWrap S) (hlw : ListWrap S) (c : MiniCfg) (ws : List Nat) (mn : Int)
    (hleaf : ∀ (P : BState → Nat → Prop), ∀ r ∈ lLeaves c ws mn, SegOK P S r) (src : List Char) (ts : List Tok)
    (h : lParse c ws mn src = .ok ts) :
    ∃ segs : List (List Tok), ts = segs.flatten ∧ ∀ g ∈ segs, S (initBState (normalize src)) g := by
  obtain ⟨st, hst, rfl⟩ := parseWith_state h
  exact parse_segs S mn _ (lChain_seg S hw hlw c ws mn hleaf _).2 src st hst

theorem hidden_eq_fields {t u : Tok} (h : t.setHidden false = u.setHidden false) :
    t.nesting = u.nesting ∧ t.level = u.level ∧ t.type = u.type ∧ t.map = u.map ∧ t.content = u.content ∧ t.markup = u.markup
      ∧ t.info = u.info := by
  cases t; cases u
  simp only [Tok.setHidden, Tok.mk.injEq] at h
  exact ⟨h.2.2.1, h.2.2.2.2.2.1, h.1, h.2.2.2.2.1, h.2.2.2.2.2.2.2.1, h.2.2.2.2.2.2.2.2.1, h.2.2.2.2.2.2.2.2.2.1⟩

theorem sameNL_of_hidEq (a b : List Tok) (h : HidEq a b) : SameNL a b :=
  sameNL_of_map_eq (fun _ _ e => ⟨(hidden_eq_fields e).1, (hidden_eq_fields e).2.1⟩) h

theorem wellSegS_listWrap : ListWrap WellSegS := by
  refine ⟨?_, ?_⟩
  · exact fun s seg seg' hh hS => WellSeg.congr (sameNL_of_hidEq seg' seg hh) hS
  · intro s s2 openT closeT m segs h2 _ ho1 ho2 hc1 hc2 _ hS
    have hmid : WellSeg (s.level + 1) segs.flatten := by
      have := wellSegs_flatten s2.level segs (fun g hg => hS g hg)
      rw [h2] at this; exact this
    exact wellSeg_wrap s.level _ _ _ (by simp [ho1]) (by simp [ho2]) hc1 hc2 hmid

/-- **C02.l_wellformed** — with block quotes and lists nested in each other to any depth (tight and loose lists, ordered lists with a
start number, empty items): for every source, rule subset and `maxNesting`, the block stream is levelled from 0, ends at depth 0, is
balanced, and `SyntaxTreeNode(tokens)` builds -/
theorem l_wellformed (c : MiniCfg) (ws : List Nat) (maxNesting : Int) (src : List Char) (ts : List Tok)
    (h : lParse c ws maxNesting src = .ok ts) :
    levelsOK 0 ts ∧ depthAfter 0 ts = 0 ∧ balancedFrom 0 ts = true ∧ ∃ f, buildTree ts = .ok f := by
  obtain ⟨segs, hts, hS⟩ := lParse_segs WellSegS wellSegS_wrap wellSegS_listWrap c ws maxNesting
    (wellSeg_leaves · c (inertE_of_inert (lTerminators_inert c ws maxNesting)) ws) src ts h
  exact wellformed_of_segs rfl hts hS

end MdIt.C02
