import MdIt.Props.C01d
import MdIt.BlockMore
/-!
# C01 (continued) — the block sub-parser with `html_block` and `lheading` is total

The two rules keep the block contract K1–K4 in the loop's call context (the `lheading` rule leaves `parentType` changed on a
miss — not a frame field, see O4 in DESIGN.md); `html_block` is inert as a terminator.  The container contracts of `C01c` / `C01d`
are generic in their chains, so the sub-parser `code, fence, blockquote, hr, list, html_block, heading, lheading, paragraph` is total.
-/
namespace MdIt.C01

theorem here_getL' {P} {s : BState} {line endLine : Nat} (hc : CallCtx P s line endLine) : ∃ l, getL s line = .ok l := by
  obtain ⟨l, h1, _, _⟩ := hc.here
  exact ⟨l, getL_of_here h1⟩

theorem htmlScan_ok (endRe : Rx) (s : BState) (endLine : Nat) (hlen : endLine < s.lines.length) (fuel next : Nat) :
    endLine - next < fuel → next ≤ endLine → ∃ r, htmlScan endRe s endLine fuel next = .ok r ∧ next ≤ r ∧ r ≤ endLine := by
  fun_induction htmlScan endRe s endLine fuel next <;> intro hf hle
  case case1 => omega  -- out of fuel
  case case2 next h _ hg => obtain ⟨l, hg', _⟩ := getL_ok s next (by omega); rw [hg'] at hg; cases hg  -- line not in the tables
  case case3 | case6 => exact ⟨_, rfl, Nat.le_refl _, hle⟩  -- an outdented line; the end of the range
  case case4 => exact ⟨_, rfl, by split <;> omega, by split <;> omega⟩  -- the end condition matches
  case case5 ih =>  -- any other line: the search goes on
    obtain ⟨r, h1, h2, h3⟩ := ih (by omega) (by omega)
    exact ⟨r, h1, by omega, h3⟩

/-- the tests `html_block` makes on the body of its first line: the HTML sequence that opens there -/
def htmlOpen (htmlOn : Bool) (body : List Char) : Option (Rx × Rx × Bool) :=
  if !htmlOn then none else
  if !(body.head? == some '<') then none else findHtmlSeq body Gen.htmlSequences

theorem ruleHtmlBlock_eq (codeOn htmlOn : Bool) (s : BState) (line endLine : Nat) (silent : Bool) {l : BLine}
    (hg : getL s line = .ok l) :
    ruleHtmlBlock codeOn htmlOn s line endLine silent =
      if isCodeLine codeOn s l then .ok (false, s) else
      match htmlOpen htmlOn l.body with
      | none => .ok (false, s)
      | some q =>
        if silent then .ok (q.2.2, s) else
        match (if q.2.1.search l.body then .ok (line + 1) else htmlScan q.2.1 s endLine (endLine - line + 1) (line + 1)) with
        | .error e => .error e
        | .ok next =>
          match getLinesB s line next s.blkIndent true with
          | .error e => .error e
          | .ok c => .ok (true, ({ s with line := next }).pushFull "html_block" "" 0 (some (line, next)) none (String.ofList c) "" "") := by
  unfold ruleHtmlBlock htmlOpen
  rw [hg]
  refine ite_congr rfl (fun _ => rfl) fun _ => ?_
  by_cases h1 : (!htmlOn) = true
  · simp only [if_pos h1]
  · by_cases h2 : (!(l.body.head? == some '<')) = true
    · simp only [if_neg h1, if_pos h2]
    · simp only [if_neg h1, if_neg h2]; rfl

theorem html_shape (P) (codeOn htmlOn : Bool) :
    BlockLeaf P [] (fun s line endLine n seg => n ≤ endLine ∧ htmlOn = true ∧ ∃ c, getLinesB s line n s.blkIndent true = .ok c ∧
      seg = [pushedTok s "html_block" "" 0 (some (line, n)) none (String.ofList c) "" ""]) (ruleHtmlBlock codeOn htmlOn) := by
  intro s line endLine hc
  obtain ⟨l, hl, _, _⟩ := hc.here
  have hlenE : endLine < s.lines.length := by have := hc.len; have := hc.le; omega
  rw [ruleHtmlBlock_eq codeOn htmlOn s line endLine false (getL_of_here hl)]
  split
  · exact .inl ⟨_, List.mem_cons_self, rfl⟩
  · split
    · exact .inl ⟨_, List.mem_cons_self, rfl⟩
    · rename_i q ho
      have hon : htmlOn = true := by
        cases htmlOn with
        | true => rfl
        | false => simp [htmlOpen] at ho
      have hnext : ∃ next, (if q.2.1.search l.body = true then (Except.ok (line + 1) : Except PyErr Nat)
          else htmlScan q.2.1 s endLine (endLine - line + 1) (line + 1)) = .ok next ∧ line + 1 ≤ next ∧ next ≤ endLine := by
        split
        · exact ⟨line + 1, rfl, Nat.le_refl _, hc.lt⟩
        · exact htmlScan_ok _ s endLine hlenE _ _ (by omega) hc.lt
      obtain ⟨next, hn, h1, h2⟩ := hnext
      obtain ⟨c, hcx⟩ := getLinesB_ok s line next s.blkIndent true (by omega)
      rw [hn]
      simp only [hcx, Bool.false_eq_true, if_false]
      exact .inr ⟨next, _, by rw [pushFull_zero]; rfl, h1, by have := hc.le; omega, h2, hon, c, hcx, rfl⟩

theorem ruleOK_htmlBlock (P) (codeOn htmlOn : Bool) : RuleOK P (ruleHtmlBlock codeOn htmlOn) := (html_shape P codeOn htmlOn).ruleOK

theorem htmlBlock_inert (codeOn htmlOn : Bool) : SilentInert (ruleHtmlBlock codeOn htmlOn) := by
  intro s line endLine hl
  obtain ⟨l, hg, _⟩ := getL_ok s line hl
  rw [ruleHtmlBlock_eq codeOn htmlOn s line endLine true hg]
  split
  · exact ⟨_, rfl⟩
  · split
    · exact ⟨_, rfl⟩
    · exact ⟨_, rfl⟩

theorem setextLevel_marker (body : List Char) (m : Char) (lv : Nat) (h : setextLevel body = some (m, lv)) : m = '-' ∨ m = '=' := by
  unfold setextLevel at h
  split at h
  · cases h
  · rename_i c _
    split at h
    · rename_i hm
      split at h
      · simp only [Option.some.injEq, Prod.mk.injEq] at h
        obtain ⟨rfl, _⟩ := h
        simpa using hm
      · cases h
    · cases h

theorem lheadScan_okE (ts : List BRule) (h : ∀ t ∈ ts, SilentInertE t) (s : BState) (endLine : Nat) (hlen : endLine < s.lines.length) :
    ∀ (fuel next : Nat), endLine - next < fuel → next ≤ endLine →
      ∃ r o, lheadScan ts endLine fuel next s = .ok (r, o, s) ∧ next ≤ r ∧ r ≤ endLine ∧
        ∀ m lv, o = some (m, lv) → r < endLine ∧ (m = '-' ∨ m = '=') := by
  intro fuel next
  revert hlen
  fun_induction lheadScan ts endLine fuel next s <;> intro hlen hf hle
  case case1 => omega  -- out of fuel
  case case2 next s hlt _ hg => obtain ⟨l, hg', _⟩ := getL_ok s next (by omega); rw [hg'] at hg; cases hg  -- line not in the tables
  case case3 | case10 => exact ⟨_, none, rfl, Nat.le_refl _, hle, fun _ _ h => by cases h⟩  -- a blank line; the end of the range
  case case4 ih | case6 ih =>  -- a code-indented or a quote-marked (`sCount < 0`) line continues the paragraph
    obtain ⟨r, o, h1, h2, h3, h4⟩ := ih hlen (by omega) (by omega)
    exact ⟨r, o, h1, by omega, h3, h4⟩
  case case5 hlt _ _ _ _ q hq =>  -- an underline
    refine ⟨_, some q, rfl, Nat.le_refl _, hle, fun m lv h => ?_⟩
    cases h
    split at hq
    · exact ⟨hlt, setextLevel_marker _ _ _ hq⟩
    · cases hq
  case case7 next s hlt _ _ _ _ _ _ _ hr =>  -- the terminators raise
    obtain ⟨b, hb⟩ := runTerminators_inertE ts h s next endLine hlt hlen
    rw [hb] at hr; cases hr
  case case8 next s hlt _ _ _ _ _ _ _ hr =>  -- a terminator matches
    obtain ⟨b, hb⟩ := runTerminators_inertE ts h s next endLine hlt hlen
    rw [hb] at hr; cases hr
    exact ⟨_, none, rfl, Nat.le_refl _, hle, fun _ _ h => by cases h⟩
  case case9 next s hlt _ _ _ _ _ _ _ hr ih =>  -- no terminator matches
    obtain ⟨b, hb⟩ := runTerminators_inertE ts h s next endLine hlt hlen
    rw [hb] at hr; cases hr
    obtain ⟨r, o, h1, h2, h3, h4⟩ := ih hlen (by omega) (by omega)
    exact ⟨r, o, h1, by omega, h3, h4⟩

theorem lheadScan_ok (ts : List BRule) (h : ∀ t ∈ ts, SilentInert t) (s : BState) (endLine : Nat) (hlen : endLine < s.lines.length) :
    ∀ (fuel next : Nat), endLine - next < fuel → next ≤ endLine →
      ∃ r o, lheadScan ts endLine fuel next s = .ok (r, o, s) ∧ next ≤ r ∧ r ≤ endLine ∧ (o.isSome = true → r < endLine) := by
  intro fuel next hf hle
  obtain ⟨r, o, h1, h2, h3, h4⟩ := lheadScan_okE ts (inertE_of_inert h) s endLine hlen fuel next hf hle
  refine ⟨r, o, h1, h2, h3, fun ho => ?_⟩
  obtain ⟨⟨m, lv⟩, rfl⟩ := Option.isSome_iff_exists.1 ho
  exact (h4 m lv rfl).1

theorem lheading_shapeE (P : BState → Nat → Prop) (codeOn : Bool) (terms : List BRule) (hin : ∀ t ∈ terms, SilentInertE t) (ws : List Nat) :
    BlockLeaf P ["paragraph"] (fun s line endLine n seg => n ≤ endLine ∧ ∃ tag mk m1 m2 c,
      seg = tripleToks s "heading_open" "heading_close" tag mk m1 m2 c ∧
      ∃ (next : Nat) (marker : Char), n = next + 1 ∧ line < next ∧ (marker = '-' ∨ marker = '=') ∧ mk = String.singleton marker ∧
        m1 = (line, next + 1) ∧ m2 = (line, next))
      (ruleLheading codeOn terms ws) := by
  intro s line endLine hc
  obtain ⟨l, hl, _, _⟩ := hc.here
  have hlenE : endLine < s.lines.length := by have := hc.len; have := hc.le; omega
  simp only [ruleLheading, getL_of_here hl]
  split
  · exact .inl ⟨_, List.mem_cons_self, rfl⟩
  · obtain ⟨r, o, h1, h2, h3, h4⟩ := lheadScan_okE terms hin { s with parentType := "paragraph" } endLine hlenE
      (endLine - line + 1) (line + 1) (by omega) (by have := hc.lt; omega)
    simp only [h1]
    cases o with
    | none => exact .inl ⟨_, List.mem_cons_of_mem _ List.mem_cons_self, rfl⟩
    | some ml =>
      obtain ⟨marker, level⟩ := ml
      obtain ⟨hlt, hm⟩ := h4 marker level rfl
      obtain ⟨c, hcx⟩ := getLinesB_ok { s with parentType := "paragraph" } line r s.blkIndent false (by simp; omega)
      simp only [hcx]
      exact .inr ⟨r + 1, _, by rw [pushFull_triple]; rfl, by omega, by have := hc.le; omega, hlt, _, _, _, _, _, rfl, r, marker, rfl, h2, hm,
        rfl, rfl, rfl⟩

theorem ruleOK_lheadingE (P : BState → Nat → Prop) (codeOn : Bool) (terms : List BRule) (hin : ∀ t ∈ terms, SilentInertE t) (ws : List Nat) :
    RuleOK P (ruleLheading codeOn terms ws) := (lheading_shapeE P codeOn terms hin ws).ruleOK

theorem mListTerms_inert (c : MCfg) (mn : Int) : ∀ t ∈ mListTerms c mn, SilentInert t := lListTerms_inert c.toMiniCfg mn

theorem mTerminators_inert (c : MCfg) (ws : List Nat) (mn : Int) : ∀ t ∈ mTerminators c ws mn, SilentInert t := by
  simp only [mTerminators, List.forall_mem_append, forall_mem_opt, List.forall_mem_singleton]
  exact ⟨⟨⟨⟨⟨fun _ => fence_inert _, quote_inert _ _ _ _⟩, fun _ => hr_inert _⟩, list_inert _ _ _ _⟩, fun _ => htmlBlock_inert _ _⟩,
    fun _ => heading_inert _ _⟩

theorem ruleOK_leavesM (P : BState → Nat → Prop) (c : MCfg) {pt : List BRule} (hpt : ∀ t ∈ pt, SilentInertE t) (ws : List Nat) :
    ∀ r ∈ leavesM c pt ws, RuleOK P r :=
  forall_leavesM (ruleOK_leaves P c.toMiniCfg hpt ws) (fun _ => ruleOK_htmlBlock _ _ _) (fun _ => ruleOK_lheadingE _ _ _ hpt ws)

theorem mTower (c : MCfg) (ws : List Nat) (mn : Int) : Tower mn (C02.mLeaves c ws mn) true (mChain c ws mn) where
  zero := rfl
  rule d r h := by
    rcases C02.mem_mChain c ws mn d r h with h | rfl | rfl
    · exact .leaf h
    · exact .quote _ (mTerminators_inert c ws mn)
    · exact .list _ rfl (mListTerms_inert c mn)
  leaf_ok P := ruleOK_leavesM P c (inertE_of_inert (mTerminators_inert c ws mn)) ws
  last d P := ⟨ruleParagraph (mTerminators c ws mn) ws, by simp [mChain], paragraph_always _ _ (mTerminators_inert c ws mn) ws⟩

theorem mChain_ok (c : MCfg) (ws : List Nat) (mn : Int) : ∀ d : Nat,
    (∀ r ∈ mChain c ws mn d, RuleOK (Lv mn d) r) ∧ InnerOK mn d (mChain c ws mn d) :=
  tower_ok (mTower c ws mn) fun _ => ruleOK_list mn

/-- **C01.m_total** — nine of the eleven block rules, containers nested in each other to any depth: for every source, rule subset,
`html` option, white-space table and `maxNesting`, the modelled parse returns a token list -/
theorem m_total (c : MCfg) (ws : List Nat) (maxNesting : Int) (src : List Char) :
    ∃ ts, mParse c ws maxNesting src = .ok ts :=
  parseWith_total (parse_total maxNesting _ (mChain_ok c ws maxNesting _).2 src)

/-! non-vacuity: a setext heading, an HTML block ended by a blank line, one with an end condition, inside containers -/
example : typesOf (mParse ⟨⟨true, true, true, true⟩, true, true, true⟩ [32, 9, 10] 100
      "title\n===\n\n<div>\nx\n\n> <!-- c\n> -->\n- a\n  ---\n".toList)
    = some ["heading_open", "inline", "heading_close", "html_block", "blockquote_open", "html_block", "blockquote_close",
            "bullet_list_open", "list_item_open", "heading_open", "inline", "heading_close", "list_item_close", "bullet_list_close"] := by
  decide +kernel

end MdIt.C01
