import MdIt.Refs
/-!
# C16 — reference definitions act through env: seeding env equals prepending them
-/
namespace MdIt.C16

/-- **C16.record_lookup** (one step of `first_wins`) — recording a definition never changes what any label already
resolves to; a new label resolves to the new definition (where a definition of a present label goes: `recorded_once`). -/
theorem record_lookup (e : RefEnv) (d : RefDef) (l : String) :
    (e.record d).lookup l = (match e.lookup l with
      | some x => some x
      | none => if l = d.label then some d else none) := by
  unfold RefEnv.record RefEnv.lookup
  by_cases hany : e.references.any (·.1 == d.label) = true
  · simp only [hany, if_true]
    cases hf : e.references.find? (·.1 == l) with
    | some p => simp
    | none =>
      simp only [Option.map_none]
      by_cases hl : l = d.label
      · subst hl
        rw [List.find?_eq_none] at hf
        rw [List.any_eq_true] at hany
        obtain ⟨p, hp, hpk⟩ := hany
        exact absurd hpk (hf p hp)
      · simp [hl]
  · have hany' : e.references.any (·.1 == d.label) = false := Bool.eq_false_iff.2 hany
    simp only [hany', Bool.false_eq_true, if_false, List.find?_append]
    cases hf : e.references.find? (·.1 == l) with
    | some p => simp
    | none =>
      by_cases hl : l = d.label
      · subst hl; simp
      · have : (d.label == l) = false := by simpa using (fun e => hl e.symm)
        simp [this, hl]

/-- **C16.first_wins** — over any sequence of definitions, from any env (fresh or seeded by earlier
parses): `references` is only ever extended — whatever a label resolved to before, it resolves to
afterwards. -/
theorem first_wins (e : RefEnv) (ds : List RefDef) (l : String) (x : RefDef) (h : e.lookup l = some x) :
    (e.recordAll ds).lookup l = some x := by
  induction ds generalizing e with
  | nil => exact h
  | cons d rest ih =>
    apply ih
    rw [record_lookup, h]

theorem record_perm (e : RefEnv) (d : RefDef) :
    ((e.record d).references.map (·.2) ++ (e.record d).duplicates).Perm
      (e.references.map (·.2) ++ e.duplicates ++ [d]) := by
  unfold RefEnv.record
  by_cases hany : e.references.any (·.1 == d.label) = true
  · rw [if_pos hany, List.append_assoc]
  · rw [if_neg hany]
    simp only [List.map_append, List.map_cons, List.map_nil, List.append_assoc]
    exact List.Perm.append_left _ List.perm_append_comm

theorem recordAll_perm (e : RefEnv) (ds : List RefDef) :
    ((e.recordAll ds).references.map (·.2) ++ (e.recordAll ds).duplicates).Perm
      (e.references.map (·.2) ++ e.duplicates ++ ds) := by
  induction ds generalizing e with
  | nil => simp [RefEnv.recordAll]
  | cons d rest ih =>
    refine (ih (e.record d)).trans ?_
    rw [← List.singleton_append (l := rest), ← List.append_assoc]
    exact (record_perm e d).append_right rest

/-- **C16.recorded_once** — every definition is recorded exactly once: either as the (first)
definition of its label or as a duplicate, never both, never dropped -/
theorem recorded_once (e : RefEnv) (ds : List RefDef) :
    ((e.recordAll ds).references.map (·.2)).length + (e.recordAll ds).duplicates.length
      = (e.references.map (·.2)).length + e.duplicates.length + ds.length
    ∧ ∀ d ∈ ds, d ∈ (e.recordAll ds).references.map (·.2) ∨ d ∈ (e.recordAll ds).duplicates := by
  have h := recordAll_perm e ds
  constructor
  · have := h.length_eq
    simp only [List.length_append] at this
    exact this
  · intro d hd
    exact List.mem_append.1 (h.mem_iff.2 (List.mem_append_right _ hd))

/-- "seeding env equals prepending", at the level of the env bookkeeping -/
theorem seed_eq_prepend (e : RefEnv) (r d : List RefDef) :
    e.recordAll (r ++ d) = (e.recordAll r).recordAll d := by
  simp [RefEnv.recordAll, List.foldl_append]

theorem stripBy_pad (sp : Char → Bool) (pad1 pad2 s : List Char)
    (h1 : ∀ c ∈ pad1, sp c = true) (h2 : ∀ c ∈ pad2, sp c = true) :
    stripBy sp (pad1 ++ s ++ pad2) = stripBy sp s := by
  unfold stripBy
  rw [List.append_assoc, List.dropWhile_append_of_pos h1, List.dropWhile_append]
  by_cases he : (s.dropWhile sp).isEmpty = true
  · rw [if_pos he, List.isEmpty_iff.1 he, ← List.append_nil pad2, List.dropWhile_append_of_pos h2]
    rfl
  · rw [if_neg he, List.reverse_append, List.dropWhile_append_of_pos (by simpa using h2)]

/-- **C16.normRef_trim** — leading and trailing whitespace does not matter for label matching -/
theorem normRef_trim (sp : Char → Bool) (fold : List Char → List Char) (pad1 pad2 s : List Char)
    (h1 : ∀ c ∈ pad1, sp c = true) (h2 : ∀ c ∈ pad2, sp c = true) :
    normRef sp fold (pad1 ++ s ++ pad2) = normRef sp fold s := by
  unfold normRef
  rw [stripBy_pad sp pad1 pad2 s h1 h2]

/-! non-vacuity -/
example :
    let d1 : RefDef := ⟨"FOO", "/a", "", (0, 1)⟩
    let d2 : RefDef := ⟨"FOO", "/b", "", (1, 2)⟩
    ((RefEnv.mk [] []).recordAll [d1, d2]).lookup "FOO" = some d1
      ∧ ((RefEnv.mk [] []).recordAll [d1, d2]).duplicates = [d2] := by decide

end MdIt.C16
