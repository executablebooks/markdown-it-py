import MdIt.Proofs.Pipeline
import MdIt.Props.C01h
import MdIt.Props.C01j
import MdIt.Props.C01l
/-!
# C01 (continued) — `MarkdownIt.parse` end to end returns for every input (modelled sub-language)

The block side (`m_total`; with the `table` rule in the main chain and as a terminator, `t_total`) and the inline side (`image_total`)
composed through the core chain `normalize → block → inline → text_join`.  The inline parser reads the env as the block parse left it
(`envAfter`); `image_total` holds for every env.
-/
namespace MdIt.C01

theorem coreInline_total (parse : List Char → Except PyErr (List Tok)) (hparse : ∀ c, ∃ ts, parse c = .ok ts) :
    ∀ bts : List Tok, ∃ ts, coreInline parse bts = .ok ts := by
  intro bts
  induction bts with
  | nil => exact ⟨[], rfl⟩
  | cons t rest ih =>
    obtain ⟨r, hr⟩ := ih
    unfold coreInline
    split
    · obtain ⟨cs, hcs⟩ := hparse t.content.toList
      rw [hcs, hr]
      exact ⟨_, rfl⟩
    · rw [hr]
      exact ⟨_, rfl⟩

theorem coreTail_total (ic : ICfg) (parse : List Char → Except PyErr (List Tok)) (hparse : ∀ c, ∃ ts, parse c = .ok ts)
    (bts : List Tok) : ∃ ts, coreTail ic parse bts = .ok ts := by
  unfold coreTail
  cases ic.inlineOn
  · exact ⟨_, rfl⟩
  · obtain ⟨its, hi⟩ := coreInline_total parse hparse bts
    rw [if_pos rfl, hi]
    exact ⟨_, rfl⟩

theorem inlineOf_total (cls : QCls) (ext : IExt) (lx : LExt) (ic : ICfg) (mn : Int) (d : Nat) (c : List Char) :
    ∃ ts, inlineOf cls ext lx ic mn d c = .ok ts :=
  image_total cls ext lx ic.text ic.newline ic.escape ic.backticks ic.strike ic.emphasis ic.link ic.image ic.autolink ic.htmlInline ic.entity
    ic.fragJoin mn d c

/-- **C01.full_total** — for every source, every subset of the modelled block rules (with `blockquote`, `list`, `paragraph`), every
subset of the eleven modelled inline rules, either value of `html`, `maxNesting`, the core rules `inline` and `text_join` on or off,
every reference table, classification and external functions: the whole parse — line scan, block loop with nested containers, the
inline parser on every `inline` token with its nested runs, the second chain, `text_join` — returns a token list. -/
theorem full_total (cls : QCls) (ext : IExt) (lx : LExt) (bc : MCfg) (ic : ICfg) (ws : List Nat) (mn : Int) (d : Nat) (src : List Char) :
    ∃ ts, fullParse cls ext lx bc ic ws mn d src = .ok ts := by
  obtain ⟨bts, hb⟩ := m_total bc ws mn src
  obtain ⟨ts, ht⟩ := coreTail_total ic _ (inlineOf_total cls ext lx ic mn d) bts
  exact ⟨ts, fullParse_iff.2 ⟨bts, hb, ht⟩⟩

/-- **C01.fullT_total** — `MarkdownIt.parse` for the sub-language with tables (the `reference` rule off): for every source, every rule
subset on both sides, every `maxNesting`, every seeded reference table, classification and external functions, the parse returns -/
theorem fullT_total (cls : QCls) (ext : IExt) (lx : LExt) (tc : TCfg) (hnr : tc.reference = false) (ic : ICfg) (ws : List Nat) (mn : Int)
    (d : Nat) (src : List Char) : ∃ r, fullParseT cls ext lx tc ic ws mn d src = .ok r := by
  obtain ⟨s, hb⟩ := t_total ext lx tc hnr ws mn src
  obtain ⟨ts, ht⟩ := coreTail_total ic _ (inlineOf_total cls ext (envAfter lx s) ic mn d) s.tokens
  exact ⟨_, fullParseT_iff.2 ⟨s, hb, ht, rfl, rfl⟩⟩

end MdIt.C01
