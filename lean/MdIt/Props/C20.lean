import MdIt.Cost
import MdIt.Props.C01
import MdIt.BlockTable
/-!
# C20 — work grows at most linearly on adversarial inputs (guards hold)

The guard mechanisms, proved; the global bound "total work ≤ c·|src| on every family" is *not* proved
(`Statement` below) and is decided empirically on the implementation.

The table row splitter is linear.  `escapedSplit` walks the row once (structural recursion on the characters: one step per character, no
rescanning) and its output is bounded by its input: at most one more cell than the row has pipes, and the cells together hold no more
characters than the row.  With `C02.pushCells_count` (every row contributes exactly `3 × columnCount` tokens, however many cells it
holds) a row of length `n` under a header of `k` columns costs `O(n + k)`; the quadratic shape "many short rows under a wide header" is
inherent in the *output* (`k` cells per row) — upstream caps it at 65 536 auto-completed cells, the version modelled here does not (see
the at-scale documents of C02 / C03 and seeded changes C03i, C02m, C03m).
-/
namespace MdIt.C20

/-- what is not proved: for every family and size, rule and helper invocations are bounded by a
constant times the input length (decided by measurement; known finding D9 is a counter-example for
runs of reference definitions) -/
def Statement (calls : List Char → Nat) : Prop := ∃ c, ∀ src, calls src ≤ c * (src.length + 1)

/-- **C20.depth_guard_block** (depth: block) — at `level ≥ maxNesting` the block loop dispatches no rule: it jumps to
the end of its range (or leaves at an end-of-range / dedent test before that), pushing nothing — nesting beyond the
limit is cut, not recursed into; the only other outcome is `IndexError` from a line table shorter than the range -/
theorem depth_guard_block (rules : List BRule) (maxNesting : Int) (endLine fuel line : Nat) (he : Bool) (s : BState)
    (hl : s.level ≥ maxNesting) (hlt : line < endLine) :
    (∃ s', blockLoop rules maxNesting endLine (fuel + 1) line he s = .ok s' ∧ s'.tokens = s.tokens)
    ∨ blockLoop rules maxNesting endLine (fuel + 1) line he s = .error .indexError := by
  simp only [blockLoop, hlt, hl, if_true]
  split
  · exact Or.inl ⟨_, rfl, rfl⟩
  · split
    · exact Or.inr rfl
    · split
      · exact Or.inl ⟨_, rfl, rfl⟩
      · exact Or.inl ⟨_, rfl, rfl⟩

/-- **C20.depth_guard_inline** (depth: inline) — at `level ≥ maxNesting` the inline loop runs no rule: every character
goes to the pending text, one step per character -/
theorem depth_guard_inline (rules : List IRule) (maxNesting : Int) (end_ : Nat) :
    ∀ (fuel : Nat) (s : IState), s.level ≥ maxNesting → end_ ≤ s.src.length → end_ - s.pos < fuel →
      ∃ s', tokenizeLoop rules maxNesting end_ fuel false s = .ok s' ∧ s'.tokens = s.tokens
        ∧ s'.pending = s.pending ++ (s.src.take end_).drop s.pos := by
  intro fuel s hl hend hf
  -- invariant: level, source and tokens as in `s`; `pending` and what is left of the range together are what they were
  obtain ⟨s', hrun, ⟨_, _, htok, hpend⟩, hge⟩ := tokenizeLoop_rule rules maxNesting end_
    (fun x => x.level = s.level ∧ x.src = s.src ∧ x.tokens = s.tokens
      ∧ x.pending ++ (s.src.take end_).drop x.pos = s.pending ++ (s.src.take end_).drop s.pos)
    (fun ok x ⟨hlv, hsrc, htok, hpend⟩ hlt hstale => by
      rw [if_neg (by omega)]
      obtain rfl : ok = false := hstale (by omega)
      have hin : x.pos < (s.src.take end_).length := by rw [List.length_take]; omega
      refine ⟨false, x, rfl, nofun, fun _ => ⟨x.src[x.pos]'(by rw [hsrc]; omega), List.getElem?_eq_getElem _, Nat.le_refl _, hlv, hsrc, htok, ?_⟩⟩
      rw [← hpend, List.drop_eq_getElem_cons hin, List.getElem_take]
      simp only [hsrc, List.append_assoc, List.singleton_append])
    fuel false s ⟨rfl, rfl, rfl, rfl⟩ hf (fun _ => rfl)
  refine ⟨s', hrun, htok, ?_⟩
  rw [← hpend, List.drop_eq_nil_of_le (by rw [List.length_take]; omega), List.append_nil]

/-- **C20.block_dispatch_bound** (block_linear) — the number of rule-chain dispatches of one block loop is at most the
number of lines of its range, whenever the loop returns (each dispatch consumes at least one line —
a dispatch that does not is the `noProgress` outcome, excluded by C01.block_total under the contracts) -/
theorem block_dispatch_bound (rules : List BRule) (maxNesting : Int) (endLine : Nat) :
    ∀ (fuel line : Nat) (he : Bool) (s : BState) (k : Nat) (s' : BState) (k' : Nat),
      blockLoopC rules maxNesting endLine fuel line he s k = .ok (s', k') → k' + line ≤ k + max line endLine := by
  intro fuel line he s k
  have hsk (s : BState) (line : Nat) : line ≤ skipEmptyLines s (s.lineMax + 1) line := (C01.skipEmptyLines_bounds s _ line).1
  fun_induction blockLoopC rules maxNesting endLine fuel line he s k
  all_goals intro s' k' h
  -- the three cases that loop: the dispatch is counted once, and has moved `state.line` beyond `line1 ≥ line`
  case case11 hp _ _ _ _ ih => have := ih s' k' h; have := Nat.lt_of_le_of_lt (hsk _ _) (Nat.not_le.1 hp); omega
  case case12 hp _ _ _ _ _ _ _ ih => have := ih s' k' h; have := Nat.lt_of_le_of_lt (hsk _ _) (Nat.not_le.1 hp); omega
  case case13 hp _ _ _ _ ih => have := ih s' k' h; have := Nat.lt_of_le_of_lt (hsk _ _) (Nat.not_le.1 hp); omega
  all_goals cases h
  all_goals exact Nat.add_le_add_left (Nat.le_max_left _ _) _

theorem block_dispatch_linear (rules : List BRule) (maxNesting : Int)
    (s s' : BState) (startLine endLine fuel k' : Nat)
    (h : blockLoopC rules maxNesting endLine fuel startLine false s 0 = .ok (s', k')) :
    k' ≤ endLine - startLine := by
  have := block_dispatch_bound rules maxNesting endLine fuel startLine false s 0 s' k' h
  omega

/-- **C20.skip_memo** — `skipToken` evaluates the rule chain at most once per start position: after
any sequence of calls, the number of evaluations equals the number of cached positions, the cached
positions are distinct, and every one of them was asked for -/
theorem skip_memo (eval : Nat → Nat) (ps : List Nat) :
    let st := skipMany eval ⟨[], 0, 0⟩ ps
    st.evals = st.cache.length ∧ (st.cache.map (·.1)).Nodup ∧ (∀ p ∈ st.cache.map (·.1), p ∈ ps)
      ∧ st.evals + st.hits = ps.length := by
  have key : ∀ (ps : List Nat) (st : SkipState), st.evals = st.cache.length → (st.cache.map (·.1)).Nodup →
      (skipMany eval st ps).evals = (skipMany eval st ps).cache.length ∧ ((skipMany eval st ps).cache.map (·.1)).Nodup
      ∧ (∀ p ∈ (skipMany eval st ps).cache.map (·.1), p ∈ st.cache.map (·.1) ∨ p ∈ ps)
      ∧ (skipMany eval st ps).evals + (skipMany eval st ps).hits = st.evals + st.hits + ps.length := by
    intro ps
    induction ps with
    | nil => intro st h1 h2; exact ⟨h1, h2, fun p hp => Or.inl hp, by simp [skipMany]⟩
    | cons q qs ih =>
      intro st h1 h2
      simp only [skipMany, skipTokenC]
      cases hf : st.cache.find? (·.1 == q) with
      | some p =>
        simp only
        obtain ⟨a, b, c, d⟩ := ih { st with hits := st.hits + 1 } h1 h2
        refine ⟨a, b, ?_, by simp at d ⊢; omega⟩
        intro x hx
        rcases c x hx with h | h
        · exact Or.inl h
        · exact Or.inr (by simp [h])
      | none =>
        simp only
        have hnew : q ∉ st.cache.map (·.1) := by
          rw [List.find?_eq_none] at hf
          intro hm
          simp only [List.mem_map] at hm
          obtain ⟨p, hp, hpq⟩ := hm
          exact hf p hp (by simp [hpq])
        obtain ⟨a, b, c, d⟩ := ih { st with cache := st.cache ++ [(q, eval q)], evals := st.evals + 1 }
          (by simp [h1]) (by
            simp only [List.map_append, List.map_cons, List.map_nil]
            rw [List.nodup_append]
            exact ⟨h2, by simp, by intro x hx y hy; simp at hy; subst hy; exact fun e => hnew (e ▸ hx)⟩)
        refine ⟨a, b, ?_, by simp at d ⊢; omega⟩
        intro x hx
        rcases c x hx with h | h
        · simp only [List.map_append, List.map_cons, List.map_nil, List.mem_append, List.mem_singleton] at h
          rcases h with h | h
          · exact Or.inl h
          · exact Or.inr (by simp [h])
        · exact Or.inr (by simp [h])
  intro st
  obtain ⟨a, b, c, d⟩ := key ps ⟨[], 0, 0⟩ rfl (by simp)
  exact ⟨a, b, fun p hp => (c p hp).resolve_left (by simp), by simpa using d⟩

theorem skip_evals_le (eval : Nat → Nat) (ps : List Nat) (posMax : Nat) (h : ∀ p ∈ ps, p < posMax) :
    (skipMany eval ⟨[], 0, 0⟩ ps).evals ≤ posMax := by
  obtain ⟨h1, h2, h3, _⟩ := skip_memo eval ps
  rw [h1]
  have hsub : ∀ p ∈ (skipMany eval ⟨[], 0, 0⟩ ps).cache.map (·.1), p ∈ List.range posMax := by
    intro p hp; simp [h p (h3 p hp)]
  have := List.Nodup.length_le_of_subset h2 hsub
  simpa using this

def pipes (s : List Char) : Nat := (s.filter (· == '|')).length

theorem escSplit_bounds (s : List Char) (esc : Bool) (cell : List Char) :
    (escSplitGo s esc cell).length ≤ pipes s + 1 ∧ (escSplitGo s esc cell).flatten.length ≤ cell.length + s.length := by
  fun_induction escSplitGo s esc cell with
  | case1 esc cell => simp [pipes]
  | case2 c rest esc cell hc hesc ih =>
    simp only [pipes, List.filter_cons, hc, if_true, List.length_cons, List.flatten_cons, List.length_append, List.length_nil] at ih ⊢
    omega
  | case3 c rest esc cell hc hesc ih =>
    simp only [pipes, List.filter_cons, hc, if_true, List.length_cons, List.length_append, List.length_dropLast, List.length_nil] at ih ⊢
    omega
  | case4 c rest esc cell hc ih =>
    simp only [pipes, List.filter_cons, hc, Bool.false_eq_true, if_false, List.length_cons, List.length_append, List.length_nil] at ih ⊢
    omega

theorem escSplit_cells : ∀ (s : List Char) (esc : Bool) (cell : List Char), (escSplitGo s esc cell).length ≤ pipes s + 1 :=
  fun s esc cell => (escSplit_bounds s esc cell).1

theorem escSplit_chars : ∀ (s : List Char) (esc : Bool) (cell : List Char),
    (escSplitGo s esc cell).flatten.length ≤ cell.length + s.length :=
  fun s esc cell => (escSplit_bounds s esc cell).2

end MdIt.C20
