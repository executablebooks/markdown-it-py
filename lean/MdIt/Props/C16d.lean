import MdIt.Props.C16c
/-!
# C16 (continued) — first definition wins: the invariant

An invariant of the table the parse fills (`env["references"]` entries added by this parse): labels are pairwise distinct and none of
them is a label the seeded env already resolves — a later definition of a known label goes to `duplicate_refs` and never replaces or
shadows an entry.  The `reference` rule keeps it; the terminator chains keep any invariant of the two tables (only `reference` writes
them).
-/
namespace MdIt.C16
open MdIt.C01

theorem mTerminators_keepsJ {J : BState → Prop} (hJ : OnTables J) (c : MCfg) (ws : List Nat) (mn : Int) : ∀ t ∈ mTerminators c ws mn, Keeps J t := by
  have nil : ∀ r ∈ ([] : List BRule), Keeps J r := fun r hr => by cases hr
  simp only [mTerminators, List.forall_mem_append, forall_mem_opt, List.forall_mem_singleton]
  exact ⟨⟨⟨⟨⟨fun _ => keeps_of_untouched hJ (untouched_fence _), keeps_blockquote hJ _ nil nil mn⟩,
    fun _ => keeps_of_untouched hJ (untouched_hr _)⟩, keeps_list hJ _ nil nil mn⟩,
    fun _ => keeps_of_untouched hJ (untouched_htmlBlock _ _)⟩, fun _ => keeps_of_untouched hJ (untouched_heading _ _)⟩

theorem mListTerms_keepsJ {J : BState → Prop} (hJ : OnTables J) (c : MCfg) (mn : Int) : ∀ t ∈ mListTerms c mn, Keeps J t := by
  have nil : ∀ r ∈ ([] : List BRule), Keeps J r := fun r hr => by cases hr
  simp only [mListTerms, lListTerms, List.forall_mem_append, forall_mem_opt, List.forall_mem_singleton]
  exact ⟨⟨fun _ => keeps_of_untouched hJ (untouched_fence _), keeps_blockquote hJ _ nil nil mn⟩,
    fun _ => keeps_of_untouched hJ (untouched_hr _)⟩

/-- the labels recorded are pairwise distinct, and none is resolved by the seeded env -/
def FirstWins (lx : LExt) (s : BState) : Prop :=
  (s.refs.map (·.1)).Nodup ∧ ∀ e ∈ s.refs, ¬ ((lx.hasRefs && (lx.refs e.1).isSome) = true)

theorem firstWins_onTables (lx : LExt) : OnTables (FirstWins lx) := by
  intro s s' h hv
  unfold RD at h
  simp only [Prod.mk.injEq] at h
  unfold FirstWins
  rw [h.1]
  exact hv

theorem lookupRef_none_not_mem (refs : List (List Char × List Char × List Char)) (k : List Char) (h : (lookupRef refs k).isSome = false) :
    k ∉ refs.map (·.1) := by
  intro hm
  rw [List.mem_map] at hm
  obtain ⟨e, he, hk⟩ := hm
  unfold lookupRef at h
  cases hf : refs.find? (·.1 == k) with
  | none =>
    rw [List.find?_eq_none] at hf
    exact hf e he (by simp [hk])
  | some x => rw [hf] at h; simp at h

theorem refHit_firstWins (lx : LExt) (inlineDefs : Bool) (s s1 : BState) (line : Nat) (d : RefParsed) (h1 : FirstWins lx s1) :
    FirstWins lx (refHit lx inlineDefs s s1 line d) := by
  unfold FirstWins
  rcases refHit_tables lx inlineDefs s s1 line d with ⟨e1, _, hk⟩ | ⟨e1, _⟩
  · -- a new label: neither seeded nor recorded before
    rw [Bool.or_eq_false_iff] at hk
    rw [e1]
    refine ⟨?_, ?_⟩
    · rw [List.map_append, List.nodup_append]
      refine ⟨h1.1, by simp, ?_⟩
      intro a ha b hb
      simp only [List.map_cons, List.map_nil, List.mem_singleton] at hb
      subst hb
      intro he; subst he
      exact lookupRef_none_not_mem s1.refs _ hk.2 ha
    · intro e he
      rcases List.mem_append.1 he with he | he
      · exact h1.2 e he
      · rw [List.mem_singleton] at he; subst he
        simp only [hk.1, Bool.false_eq_true, not_false_eq_true]
  · rw [e1]; exact h1

theorem keeps_reference_firstWins (ext : IExt) (lx : LExt) (inlineDefs codeOn : Bool) (terms : List BRule)
    (hts : ∀ t ∈ terms, Keeps (FirstWins lx) t) (ws : List Nat) : Keeps (FirstWins lx) (ruleReference ext lx inlineDefs codeOn terms ws) :=
  keeps_reference_of (firstWins_onTables lx) ext lx inlineDefs codeOn
    (fun s s1 line _ d _ h1 => refHit_firstWins lx inlineDefs s s1 line d h1) hts ws

end MdIt.C16
