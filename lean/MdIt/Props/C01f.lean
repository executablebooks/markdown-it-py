import MdIt.Props.C01e
import MdIt.Emphasis
/-!
# C01 (continued) — the inline sub-parser with emphasis and strikethrough is total

The two delimiter rules only push (`Leaf`), whatever the character classification, so they keep the inline contract; `balance_pairs` and
the post-processing rules are total functions of the state in the model.
-/
namespace MdIt.C01

theorem markerRun_ge (src : List Char) (marker : Char) (max : Nat) : ∀ (fuel pos : Nat), pos ≤ markerRun src marker max fuel pos := by
  intro fuel pos
  fun_induction markerRun src marker max fuel pos <;> omega

theorem markerRun_first (src : List Char) (marker : Char) (max fuel pos : Nat) (hf : 0 < fuel) (hlt : pos < max)
    (h : src[pos]? = some marker) : pos + 1 ≤ markerRun src marker max fuel pos := by
  cases fuel with
  | zero => omega
  | succ n =>
    simp only [markerRun, hlt, if_true, h, beq_self_eq_true]
    exact markerRun_ge src marker max n (pos + 1)

theorem scanDelims_count (cls : QCls) (s : IState) (hc : ICtx s) {marker : Char} (hm : s.src[s.pos]? = some marker) (b : Bool) :
    1 ≤ (scanDelims cls s s.pos b).2.2 := by
  have hget : s.src.getD s.pos ' ' = marker := by simp [List.getD, hm]
  have hrun : s.pos + 1 ≤ markerRun s.src (s.src.getD s.pos ' ') s.posMax (s.posMax - s.pos) s.pos :=
    markerRun_first _ _ _ _ _ (by have := hc.1; omega) hc.1 (by rw [hget]; exact hm)
  unfold scanDelims
  simp only
  split <;> (simp only; omega)

theorem leaf_emphasis (cls : QCls) :
    Leaf (fun _ op => ∃ marker cnt o c, (marker == '_' || marker == '*') = true ∧ op = emphOp marker cnt o c) (ruleEmphasis cls) := by
  intro s silent
  fun_cases ruleEmphasis cls s silent
  case case1 h => exact .err _ fun hc => by rw [List.getElem?_eq_getElem (ictx_lt hc)] at h; cases h
  case case2 | case3 => exact .miss
  case case4 marker hm hs hmk sc s1 =>
    simp only [s1, emphPush_eq]
    exact .hit s _ _ _ (.refl s) (fun hc => by have := scanDelims_count cls s hc hm (marker == '*'); simp only [sc]; omega)
      (fun h => absurd h hs) (fun op h => ⟨marker, _, _, _, by revert hmk; cases (marker == '_' || marker == '*') <;> simp, List.eq_of_mem_replicate h⟩)
      (opsBal_zero _ fun op h => List.eq_of_mem_replicate h ▸ rfl)

theorem iok_emphasis (cls : QCls) : IRuleOK2 (ruleEmphasis cls) := (leaf_emphasis cls).iok

theorem leaf_strike (cls : QCls) : Leaf (fun _ op => op = .plain "text" "" "~" "" "" ∨ ∃ o c, op = strikeOp o c) (ruleStrike cls) := by
  intro s silent
  fun_cases ruleStrike cls s silent
  case case1 h => exact .err _ fun hc => by rw [List.getElem?_eq_getElem (ictx_lt hc)] at h; cases h
  case case2 | case3 | case4 => exact .miss
  case case5 hs _ sc h2 s0 s1 =>
    have e0 : s0 = runOps (if sc.2.2 % 2 = 1 then [POp.plain "text" "" "~" "" ""] else []) s := by
      simp only [s0]; split <;> rfl
    simp only [s1, strikePush_eq, e0, ← runOps_append]
    refine .hit s _ _ _ (.refl s) (fun _ => by omega) (fun h => absurd h hs) (fun op h => ?_) (opsBal_zero _ fun op h => ?_)
    all_goals
      rw [List.mem_append, List.mem_ite_nil_right, List.mem_singleton] at h
      rcases h with ⟨_, rfl⟩ | h
    · exact .inl rfl
    · exact .inr ⟨_, _, List.eq_of_mem_replicate h⟩
    · rfl
    · exact List.eq_of_mem_replicate h ▸ rfl

theorem iok_strike (cls : QCls) : IRuleOK2 (ruleStrike cls) := (leaf_strike cls).iok

/-- the inline chain with emphasis: `text`, then the enabled ones of `newline`, `escape`, `backticks`, `emphasis` (registration order) -/
def eminiChain (cls : QCls) (c : IMiniCfg) (emphasis : Bool) : List IRule :=
  iminiChain c ++ (if emphasis then [ruleEmphasis cls] else [])

/-- the inline chain `text, newline?, escape?, backticks?, strikethrough?, emphasis?` (registration order) -/
def sminiChain (cls : QCls) (c : IMiniCfg) (strike emphasis : Bool) : List IRule :=
  iminiChain c ++ (if strike then [ruleStrike cls] else []) ++ (if emphasis then [ruleEmphasis cls] else [])

theorem eminiChain_eq (cls : QCls) (c : IMiniCfg) (emphasis : Bool) : eminiChain cls c emphasis = sminiChain cls c false emphasis := by
  simp [eminiChain, sminiChain]

/-- the second rule chain (`ruler2`) that goes with it, before `fragments_join` -/
def sminiPost (strike emphasis : Bool) : List (IState → IState) :=
  (if strike || emphasis then [balancePairs] else []) ++ (if strike then [strikePost] else []) ++ (if emphasis then [emphasisPost] else [])

theorem sminiChain_forall {P : IRule → Prop} {cls : QCls} {c : IMiniCfg} {strike emphasis : Bool} (hi : ∀ r ∈ iminiChain c, P r)
    (hs : strike = true → P (ruleStrike cls)) (he : emphasis = true → P (ruleEmphasis cls)) : ∀ r ∈ sminiChain cls c strike emphasis, P r := by
  simp only [sminiChain, List.forall_mem_append, forall_mem_opt]
  exact ⟨⟨hi, hs⟩, he⟩

theorem sminiChain_ok (cls : QCls) (c : IMiniCfg) (strike emphasis : Bool) : ∀ r ∈ sminiChain cls c strike emphasis, IRuleOK2 r :=
  sminiChain_forall (iminiChain_ok c) (fun _ => iok_strike cls) (fun _ => iok_emphasis cls)

theorem eminiChain_ok (cls : QCls) (c : IMiniCfg) (emphasis : Bool) : ∀ r ∈ eminiChain cls c emphasis, IRuleOK2 r :=
  eminiChain_eq cls c emphasis ▸ sminiChain_ok cls c false emphasis

/-- **C01.smini_total** — the inline sub-parser `text, newline, escape, backticks, strikethrough, emphasis` with `balance_pairs` and the
two post-processing rules: for every source, rule subset, `maxNesting` and character classification the parse returns a token list -/
theorem smini_total (cls : QCls) (c : IMiniCfg) (strike emphasis fragJoin : Bool) (maxNesting : Int) (src : List Char) :
    ∃ ts, inlineParse (sminiChain cls c strike emphasis) (sminiPost strike emphasis) fragJoin maxNesting src = .ok ts :=
  inlineParse_total (sminiChain_ok cls c strike emphasis) _ _ _ _

/-- **C01.emini_total** — for every source, every subset of `newline`, `escape`, `backticks`, `emphasis`, every `maxNesting` and every
classification of punctuation / white space, the inline parse — tokenize loop, `balance_pairs`, emphasis post-processing,
`fragments_join` — returns a token list -/
theorem emini_total (cls : QCls) (c : IMiniCfg) (emphasis fragJoin : Bool) (maxNesting : Int) (src : List Char) :
    ∃ ts, inlineParse (eminiChain cls c emphasis) (if emphasis then [balancePairs, emphasisPost] else []) fragJoin maxNesting src = .ok ts := by
  rw [eminiChain_eq]
  cases emphasis <;> exact smini_total cls c false _ fragJoin maxNesting src

end MdIt.C01
