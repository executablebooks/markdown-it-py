import MdIt.Props.C17
import MdIt.Props.C06b
import MdIt.Props.C01c
/-!
# C06 (continued) — documents given by their lines; the block quote law as a theorem about the modelled sub-parser

What the three laws (quote, list indent, concatenation) share: a document is given by its `Clean` lines (`srcOf ls`), its line table
is one `lineRec` per line (`scan_lines`, `stD ls`), a parse of it is a block loop from `stD ls`.

`quote_law`: the quote rule's scan strips every line of the quoted document, which leaves the line table of `D` up to `bsCount`
(`strip_quoteLine`, `quoteScan_quoted`); its nested run follows the run on `D` one level deeper (`SR` of `Props/C06b.lean`) and,
no line of `D` being outdented, reaches the last line; the outer loop dispatches exactly once.
-/
namespace MdIt.C06
open MdIt.C01

/-- the source text whose lines are `ls`, each ended by a line feed -/
def srcOf (ls : List (List Char)) : List Char := ls.flatMap (fun l => l ++ ['\n'])

/-- the line-table entry of a tab-free line: indent = offset = number of leading spaces -/
def lineRec (l : List Char) : BLine := mkLine l (lead l) (lead l) true

/-- a line of a document the laws speak of: no line feed inside, and none of the characters `normalize` or the tab expansion touch -/
def Clean (l : List Char) : Prop := '\n' ∉ l ∧ '\t' ∉ l ∧ '\r' ∉ l ∧ '\x00' ∉ l

theorem lineRec_lead0 {x : List Char} (h : lead x = 0) : (lineRec x).body = x ∧ (lineRec x).sCount = 0 ∧ (lineRec x).tShift = 0 :=
  ⟨by show List.drop (lead x) x = x; rw [h]; rfl, by show ((lead x : Nat) : Int) = 0; rw [h]; rfl, h⟩

theorem scanGo_found (rest : List Char) : ∀ (l cur : List Char) (indent offset : Nat), '\n' ∉ l →
    scanGo (l ++ '\n' :: rest) cur true indent offset = mkLine (cur ++ l) indent offset true :: scanGo rest [] false 0 0 := by
  intro l
  induction l with
  | nil => intro cur indent offset _; simp [scanGo]
  | cons c cs ih =>
    intro cur indent offset hnl
    have hc : c ≠ '\n' := fun e => hnl (by simp [e])
    have hcs : '\n' ∉ cs := fun e => hnl (by simp [e])
    simp only [List.cons_append, scanGo, Bool.not_true, Bool.false_and, Bool.false_eq_true, if_false]
    have h1 : (c == '\n') = false := by simpa using hc
    simp only [h1, Bool.false_eq_true, if_false]
    have h2 : (cs ++ '\n' :: rest).isEmpty = false := by cases cs <;> rfl
    simp only [h2, Bool.false_eq_true, if_false]
    rw [ih _ _ _ hcs]; simp

theorem scanGo_line (rest : List Char) : ∀ (l cur : List Char) (indent : Nat), '\n' ∉ l → '\t' ∉ l →
    scanGo (l ++ '\n' :: rest) cur false indent indent
      = mkLine (cur ++ l) (indent + lead l) (indent + lead l) true :: scanGo rest [] false 0 0 := by
  intro l
  induction l with
  | nil => intro cur indent _ _; simp [scanGo, lead, isSpaceTab]
  | cons c cs ih =>
    intro cur indent hnl hnt
    have hc : c ≠ '\n' := fun e => hnl (by simp [e])
    have hcs : '\n' ∉ cs := fun e => hnl (by simp [e])
    have hct : c ≠ '\t' := fun e => hnt (by simp [e])
    have hcst : '\t' ∉ cs := fun e => hnt (by simp [e])
    simp only [List.cons_append, scanGo, Bool.not_false, Bool.true_and]
    by_cases hsp : isSpaceTab c = true
    · have hct' : (c == '\t') = false := by simpa using hct
      simp only [hsp, if_true, hct', Bool.false_eq_true, if_false]
      rw [ih _ _ hcs hcst]
      simp only [lead, hsp, if_true]
      have : indent + 1 + lead cs = indent + (lead cs + 1) := by omega
      rw [this]; simp
    · simp only [hsp, Bool.false_eq_true, if_false]
      have h1 : (c == '\n') = false := by simpa using hc
      simp only [h1, Bool.false_eq_true, if_false]
      have h2 : (cs ++ '\n' :: rest).isEmpty = false := by cases cs <;> rfl
      simp only [h2, Bool.false_eq_true, if_false]
      rw [scanGo_found rest cs _ _ _ hcs]
      simp [lead, hsp]

theorem scan_lines (ls : List (List Char)) (h : ∀ l ∈ ls, '\n' ∉ l ∧ '\t' ∉ l) :
    scanGo (srcOf ls) [] false 0 0 = ls.map lineRec := by
  induction ls with
  | nil => simp [srcOf, scanGo]
  | cons l rest ih =>
    have hl := h l (by simp)
    have : srcOf (l :: rest) = l ++ '\n' :: srcOf rest := by simp [srcOf]
    rw [this, scanGo_line (srcOf rest) l [] 0 hl.1 hl.2, ih (fun x hx => h x (by simp [hx]))]
    simp [lineRec]

def quoteLine (l : List Char) : List Char := if l.isEmpty then ['>'] else '>' :: ' ' :: l

theorem lead_quoteLine (l : List Char) : lead (quoteLine l) = 0 := by
  unfold quoteLine; split <;> simp [lead, isSpaceTab]

theorem quoteLine_Clean (l : List Char) (h : Clean l) : Clean (quoteLine l) := by
  have key : ∀ c : Char, c ≠ '>' → c ≠ ' ' → c ∉ l → c ∉ quoteLine l := by
    intro c h1 h2 h3 hm
    unfold quoteLine at hm
    split at hm
    · exact h1 (List.mem_singleton.1 hm)
    · simp only [List.mem_cons] at hm
      rcases hm with hm | hm | hm
      · exact h1 hm
      · exact h2 hm
      · exact h3 hm
  exact ⟨key _ (by decide) (by decide) h.1, key _ (by decide) (by decide) h.2.1, key _ (by decide) (by decide) h.2.2.1,
    key _ (by decide) (by decide) h.2.2.2⟩

theorem strip_quoteLine (l : List Char) (h : Clean l) :
    zb (quoteStrip (lineRec (quoteLine l))).1 = zb (lineRec l) := by
  simp only [quoteStrip, (lineRec_lead0 (lead_quoteLine l)).1]
  unfold quoteLine
  split
  · rename_i he
    have : l = [] := List.isEmpty_iff.1 he
    subst this
    simp [quoteHead, qLoop, lineRec, mkLine, zb, lead]
  · simp only [List.drop_succ_cons, List.drop_zero, quoteHead]
    rw [qLoop_spaces _ _ l _ 0 h.2.1]
    simp [lineRec, mkLine, zb]
    omega

theorem quoteRec_props (l : List Char) :
    (lineRec (quoteLine l)).empty = false ∧ (lineRec (quoteLine l)).body.head? = some '>' ∧ (lineRec (quoteLine l)).sCount = 0 := by
  obtain ⟨hb, hsc, _⟩ := lineRec_lead0 (lead_quoteLine l)
  refine ⟨?_, ?_, hsc⟩
  · simp only [BLine.empty, lineRec, mkLine, lead_quoteLine]; unfold quoteLine; split <;> simp
  · rw [hb]; unfold quoteLine; split <;> rfl

theorem quoteScan_quoted (ts : List BRule) (n : Nat) : ∀ (fuel next : Nat) (le : Bool) (s : BState) (saved : List BLine),
    n - next < fuel → next ≤ n → n < s.lines.length →
    (∀ i, next ≤ i → i < n → ∃ l, s.lines[i]? = some l ∧ l.empty = false ∧ l.body.head? = some '>' ∧ ¬ (l.sCount < s.blkIndent)) →
    ∃ s2 saved2, quoteScan ts n fuel next le s saved = .ok (n, s2, saved2) ∧ s2.lines.length = s.lines.length
      ∧ (∀ i, (i < next ∨ n ≤ i) → s2.lines[i]? = s.lines[i]?)
      ∧ (∀ i, next ≤ i → i < n → ∃ l, s.lines[i]? = some l ∧ s2.lines[i]? = some (quoteStrip l).1)
      ∧ s2.line = s.line ∧ s2.lineMax = s.lineMax ∧ s2.blkIndent = s.blkIndent ∧ s2.level = s.level ∧ s2.tight = s.tight
      ∧ s2.tokens = s.tokens ∧ s2.listIndent = s.listIndent := by
  intro fuel
  induction fuel with
  | zero => intro next le s saved h; omega
  | succ f ih =>
    intro next le s saved hf hle hlen hq
    simp only [quoteScan]
    by_cases hlt : next < n
    · simp only [hlt, ↓reduceIte]
      obtain ⟨l, hl, hne, hhd, hout⟩ := hq next (Nat.le_refl _) hlt
      simp only [getL_of_here hl, hne, Bool.false_eq_true, ↓reduceIte, hhd, beq_self_eq_true, hout, decide_false, Bool.not_false, Bool.and_self]
      obtain ⟨s2, sv2, h1, h2, h3, h4, h5, h6, h7, h8, h9, h10, h11⟩ := ih (next + 1) (quoteStrip l).2 (s.setLine next (quoteStrip l).1) (saved ++ [l])
        (by omega) (by omega) (by simp; exact hlen)
        (by
          intro i hi1 hi2
          obtain ⟨l', a1, a2, a3, a4⟩ := hq i (by omega) hi2
          exact ⟨l', by simp only [setLine_lines]; rw [List.getElem?_set_ne (by omega)]; exact a1, a2, a3, a4⟩)
      refine ⟨s2, sv2, h1, by rw [h2]; simp, ?_, ?_, h5, h6, h7, h8, h9, h10, h11⟩
      · intro i hi
        rw [h3 i (by omega)]
        simp only [setLine_lines]
        rw [List.getElem?_set_ne (by omega)]
      · intro i hi1 hi2
        by_cases he : i = next
        · subst he
          refine ⟨l, hl, ?_⟩
          rw [h3 i (by omega)]
          simp only [setLine_lines]
          rw [List.getElem?_set_self (by omega)]
        · obtain ⟨l', a1, a2⟩ := h4 i (by omega) hi2
          refine ⟨l', ?_, a2⟩
          simp only [setLine_lines] at a1
          rw [List.getElem?_set_ne (by omega)] at a1
          exact a1
    · have : next = n := by omega
      subst this
      simp only [hlt, ↓reduceIte]
      exact ⟨s, saved, rfl, rfl, fun _ _ => rfl, fun i h1 h2 => absurd h2 (by omega), rfl, rfl, rfl, rfl, rfl, rfl, rfl⟩

theorem loop_reaches_end (P : BState → Nat → Prop) (hP : FrameClosed P) (rules : List BRule) (hok : ∀ r ∈ rules, RuleOK P r)
    (maxNesting : Int) (endLine : Nat) :
    ∀ (fuel line : Nat) (hasEmpty : Bool) (s s' : BState), s.lineMax + 1 ≤ s.lines.length → endLine ≤ s.lineMax →
      P s endLine → (∀ (i : Nat) (l : BLine), s.lines[i]? = some l → s.blkIndent ≤ l.sCount) →
      blockLoop rules maxNesting endLine fuel line hasEmpty s = .ok s' → line < endLine → endLine ≤ s'.line := by
  intro fuel line he s s' hlen hend hPs hall h
  refine (C01.loop_induct P hP rules hok maxNesting endLine
    (M := fun line s s' => (∀ (i : Nat) (l : BLine), s.lines[i]? = some l → s.blkIndent ≤ l.sCount) → line < endLine → endLine ≤ s'.line)
    ?done ?leave ?cut ?step fuel line he s s' hlen hend hPs h).1 hall
  case done => exact fun _ _ hn _ hlt => absurd hlt hn
  case leave =>
    intro line l1 s _ _ hx hall _
    rcases hx with hge | ⟨l, hl, _, hout⟩
    · exact hge
    · exact absurd (hall l1 l hl) (Int.not_le.2 hout)
  case cut => exact fun _ _ _ _ _ _ => Nat.le_refl _
  case step =>
    intro line l1 l' s s2 s' b _ _ _ hfr _ _ h5 _ ih hall _
    by_cases hlt2 : l' < endLine
    · exact ih (fun i x hx => by rw [hfr.blkIndent]; exact hall i x (by rw [← hfr.lines]; exact hx)) hlt2
    · omega

theorem runBlockChain_skip (a b : List BRule) (s : BState) (line endLine : Nat)
    (h : ∀ r ∈ a, r s line endLine false = .ok (false, s)) : runBlockChain (a ++ b) s line endLine = runBlockChain b s line endLine := by
  induction a with
  | nil => rfl
  | cons r rest ih =>
    simp only [List.cons_append, runBlockChain, h r (by simp)]
    exact ih (fun q hq => h q (by simp [hq]))

theorem loop_one_block (rules : List BRule) (mn : Int) (n f : Nat) (s s2 : BState) (l0 : BLine)
    (hmax : s.lineMax = n) (hn : 0 < n) (hlen : n < s.lines.length) (hl0 : s.lines[0]? = some l0) (hne : l0.empty = false)
    (hout : ¬ l0.sCount < s.blkIndent) (hlev : ¬ s.level ≥ mn)
    (hrun : runBlockChain rules { s with line := 0 } 0 n = .ok (true, s2)) (h2line : s2.line = n) (h2len : s2.lines.length = s.lines.length) :
    blockLoop rules mn n (f + 2) 0 false s = .ok { s2 with tight := true } := by
  subst h2line
  have hsk : skipEmptyLines s (s.lineMax + 1) 0 = 0 := by
    rw [hmax]; simp only [skipEmptyLines, hmax, hn, ↓reduceIte, hl0, hne, Bool.false_eq_true]
  obtain ⟨l', he', h1, h2, h3⟩ := (C01.blockLoop_dispatch rules mn s2.line (f + 1) 0 false s hn hsk hn hl0 (Int.not_lt.1 hout)
    (Int.not_le.1 hlev) hrun).2 hn (by omega)
  obtain rfl : l' = s2.line := by omega
  rw [h3, C01.blockLoop_done _ _ _ _ _ _ _ (Nat.lt_irrefl _)]
  rfl

def stD (ls : List (List Char)) : BState :=
  { lines := ls.map lineRec ++ [sentinelLine], line := 0, lineMax := ls.length, blkIndent := 0, level := 0, tight := false, parentType := "root", tokens := [] }

theorem mem_srcOf (ls : List (List Char)) (c : Char) : c ∈ srcOf ls ↔ (∃ l ∈ ls, c ∈ l) ∨ (c = '\n' ∧ ls ≠ []) := by
  induction ls with
  | nil => simp [srcOf]
  | cons l rest ih =>
    have : srcOf (l :: rest) = l ++ '\n' :: srcOf rest := by simp [srcOf]
    rw [this]
    simp only [List.mem_append, List.mem_cons, ih, ne_eq, reduceCtorEq, not_false_eq_true, and_true, exists_eq_or_imp]
    constructor
    · rintro (h | h | (h | h))
      · exact .inl (.inl h)
      · exact .inr h
      · exact .inl (.inr h)
      · exact .inr h.1
    · rintro ((h | h) | h)
      · exact .inl h
      · exact .inr (.inr (.inl h))
      · exact .inr (.inl h)

theorem normNul_id (s : List Char) (h : '\x00' ∉ s) : normNul s = s :=
  (List.map_congr_left fun c hc => if_neg fun (e : c = '\x00') => h (e ▸ hc)).trans (List.map_id _)

theorem normalize_srcOf (ls : List (List Char)) (h : ∀ l ∈ ls, '\r' ∉ l ∧ '\x00' ∉ l) : normalize (srcOf ls) = srcOf ls := by
  unfold normalize
  rw [C17.normNewlines_of_noCR, normNul_id]
  · intro hm
    rcases (mem_srcOf ls _).1 hm with ⟨l, hl, hc⟩ | ⟨hc, _⟩
    · exact (h l hl).2 hc
    · cases hc
  · intro hm
    rcases (mem_srcOf ls _).1 hm with ⟨l, hl, hc⟩ | ⟨hc, _⟩
    · exact (h l hl).1 hc
    · cases hc

theorem stD_get (ls : List (List Char)) (i : Nat) (hi : i < ls.length) : (stD ls).lines[i]? = some (lineRec ls[i]) := by
  simp only [stD]
  rw [List.getElem?_append_left (by simpa using hi)]
  simp [hi]

theorem stD_sentinel (ls : List (List Char)) : (stD ls).lines[ls.length]? = some sentinelLine := by
  simp only [stD]
  rw [List.getElem?_append_right (by simp)]
  simp

theorem stD_len (ls : List (List Char)) : (stD ls).lines.length = ls.length + 1 := by simp [stD]

theorem forall_stD {P : BLine → Prop} {ls : List (List Char)} (h : ∀ x ∈ ls, P (lineRec x)) (hs : P sentinelLine) :
    ∀ l ∈ (stD ls).lines, P l := by
  intro l hl
  simp only [stD, List.mem_append, List.mem_map, List.mem_singleton] at hl
  rcases hl with ⟨x, hx, rfl⟩ | rfl
  · exact h x hx
  · exact hs

theorem stD_notCode (codeOn : Bool) (ls : List (List Char)) {l : BLine} (h : l.sCount = 0) : isCodeLine codeOn (stD ls) l = false := by
  simp [isCodeLine, h, stD]

def quoteOpen (n : Nat) : Tok := .mk "blockquote_open" "blockquote" 1 [] (some (0, n)) 0 none "" ">" "" [] true false
def quoteClose : Tok := .mk "blockquote_close" "blockquote" (-1) [] none 0 none "" ">" "" [] true false

theorem stD_notab (ls : List (List Char)) (hcl : ∀ l ∈ ls, Clean l) : NoTab (stD ls).lines :=
  forall_stD (fun x hx => (hcl x hx).2.1) (by simp [sentinelLine])

/-- the quote rule on the quoted document, up to its nested run; `s2` is the state after the scan has stripped every line -/
theorem quote_rule_quoted (codeOn : Bool) (ts' inner' : List BRule) (mn' : Int) (ls : List (List Char)) (hcl : ∀ l ∈ ls, Clean l)
    (hne : ls ≠ []) :
    ∃ s2 : BState, LR (stD ls).lines s2.lines ∧ s2.lines.length = ls.length + 1 ∧ s2.line = 0 ∧ s2.lineMax = ls.length ∧ s2.level = 0
      ∧ s2.tight = false ∧ s2.listIndent = -1 ∧ s2.tokens = [] ∧
      ∀ (t' : BState) (X : List Tok),
        blockTokenize inner' mn' (quoteEnter s2 0) 0 ls.length = .ok t' →
        t'.tokens = quoteOpen 0 :: X → t'.level = 1 → t'.line = ls.length → t'.lines.length = ls.length + 1 →
        ∃ sF, ruleBlockquote codeOn ts' inner' mn' (stD (ls.map quoteLine)) 0 ls.length false = .ok (true, sF)
          ∧ sF.line = ls.length ∧ sF.lines.length = (stD (ls.map quoteLine)).lines.length
          ∧ sF.tokens = quoteOpen ls.length :: X ++ [quoteClose] := by
  have hn : 0 < ls.length := List.length_pos_iff.mpr hne
  have hqlen : (ls.map quoteLine).length = ls.length := by simp
  have hq : ∀ i (hi : i < ls.length), (stD (ls.map quoteLine)).lines[i]? = some (lineRec (quoteLine ls[i])) := by
    intro i hi
    rw [stD_get _ i (by simpa using hi)]; simp
  have h0 := hq 0 hn
  obtain ⟨p1, p2, p3⟩ := quoteRec_props ls[0]
  have hcode := stD_notCode codeOn (ls.map quoteLine) p3
  obtain ⟨s2, sv2, hscan, h2len, h2out, h2in, h2line, h2max, h2blk, h2lev, h2tight, h2tok, h2li⟩ :=
    quoteScan_quoted ts' ls.length (ls.length - 0 + 1) (0 + 1) (quoteStrip (lineRec (quoteLine ls[0]))).2
      (quoteStart (stD (ls.map quoteLine)) 0 (lineRec (quoteLine ls[0]))) [lineRec (quoteLine ls[0])]
      (by omega) (by omega) (by show ls.length < (List.set _ _ _).length; simp [stD])
      (by
        intro i hi1 hi2
        refine ⟨lineRec (quoteLine ls[i]), ?_, (quoteRec_props ls[i]).1, (quoteRec_props ls[i]).2.1, ?_⟩
        · show (List.set _ _ _)[i]? = _
          rw [List.getElem?_set_ne (by omega)]; exact hq i hi2
        · rw [(quoteRec_props ls[i]).2.2]; show ¬ ((0 : Int) < 0); omega)
  have hs2 : ∀ i (hi : i < ls.length), s2.lines[i]? = some (quoteStrip (lineRec (quoteLine ls[i]))).1 := by
    intro i hi
    by_cases h0i : i = 0
    · subst h0i
      rw [h2out 0 (by omega)]
      show (List.set _ _ _)[0]? = _
      rw [List.getElem?_set_self (by simp [stD])]
    · obtain ⟨l, a1, a2⟩ := h2in i (by omega) hi
      have a1' : (List.set (stD (ls.map quoteLine)).lines 0 _)[i]? = some l := a1
      rw [List.getElem?_set_ne (by omega), hq i hi] at a1'
      cases a1'; exact a2
  have hs2n : s2.lines[ls.length]? = some sentinelLine := by
    rw [h2out _ (by omega)]
    show (List.set _ _ _)[ls.length]? = _
    rw [List.getElem?_set_ne (by omega)]
    have := stD_sentinel (ls.map quoteLine); rw [hqlen] at this; exact this
  have hs2len : s2.lines.length = ls.length + 1 := by
    rw [h2len]; show (List.set _ _ _).length = _; simp [stD]
  have hLR : LR (stD ls).lines s2.lines := by
    apply List.ext_getElem?
    intro i
    simp only [List.getElem?_map]
    by_cases hi : i < ls.length
    · rw [stD_get ls i hi, hs2 i hi]
      simp only [Option.map_some]
      rw [strip_quoteLine _ (hcl _ (List.getElem_mem hi))]
    · by_cases hi2 : i = ls.length
      · subst hi2; rw [stD_sentinel, hs2n]
      · rw [List.getElem?_eq_none (by rw [stD_len]; omega), List.getElem?_eq_none (by rw [hs2len]; omega)]
  refine ⟨s2, hLR, hs2len, by rw [h2line]; rfl, by rw [h2max]; show (ls.map quoteLine).length = _; simp, by rw [h2lev]; rfl,
    by rw [h2tight]; rfl, by rw [h2li]; rfl, by rw [h2tok]; rfl, ?_⟩
  intro t' X hr' htok hlev hline hlen
  rw [ruleBlockquote_eq]
  simp only [getL_of_here h0, hcode, p2, beq_self_eq_true, Bool.not_true, Bool.false_eq_true, ↓reduceIte, quoteRun, hscan, hr']
  refine ⟨_, rfl, ?_⟩
  rw [quoteLeave_eq]
  refine ⟨hline, ?_, ?_⟩
  · show (restoreLines _ 0 sv2).lines.length = _
    rw [restoreLines_length]
    show t'.lines.length = _
    rw [hlen, stD_len, hqlen]
  · show List.modify (t'.tokens ++ _) s2.tokens.length _ = _
    rw [htok, h2tok]
    show List.modify _ 0 _ = _
    simp only [List.cons_append, List.modify_zero_cons, pushedTok, hlev, quoteOpen, quoteClose, Tok.setMap]
    simp
    exact hline

theorem quote_rule_law_of (codeOn : Bool) (ts' : List BRule) {inner inner' : List BRule} {mn : Int} {ls : List (List Char)}
    (hcl : ∀ l ∈ ls, Clean l) (hne : ls ≠ []) (hin : NestedSim 1 inner inner' mn) {tD : BState}
    (hD : blockTokenize inner mn (stD ls) 0 ls.length = .ok tD) (hline : tD.line = ls.length) (hfr : (stD ls).FrameEq tD) :
    ∃ sF, ruleBlockquote codeOn ts' inner' (mn + 1) (stD (ls.map quoteLine)) 0 ls.length false = .ok (true, sF)
      ∧ sF.line = ls.length ∧ sF.lines.length = (stD (ls.map quoteLine)).lines.length
      ∧ sF.tokens = quoteOpen ls.length :: tD.tokens.map (Tok.shift 1) ++ [quoteClose] := by
  obtain ⟨s2, hLR, h2len, h2line, h2max, h2lev, h2tight, h2li, h2tok, hrule⟩ := quote_rule_quoted codeOn ts' inner' (mn + 1) ls hcl hne
  have hsr3 : SR 1 [quoteOpen 0] (stD ls) (quoteEnter s2 0) := by
    rw [quoteEnter_eq]
    refine ⟨hLR, stD_notab ls hcl, h2line, h2max, rfl, by show s2.level + 1 = (0 : Int) + 1; rw [h2lev], h2tight, h2li, ?_⟩
    show s2.tokens ++ _ = _
    rw [h2tok]
    simp [stD, pushedTok, quoteOpen, h2lev]
  obtain ⟨t', hr', hsr4⟩ := hin 0 ls.length tD hsr3 hD
  refine hrule t' _ hr' hsr4.tokens ?_ (by rw [hsr4.line, hline]) ?_
  · rw [hsr4.level, hfr.level]; rfl
  · rw [hsr4.lines.length, hfr.lines, stD_len]

theorem quote_rule_law (codeOn : Bool) (ts' inner inner' : List BRule) (mn : Int) (ls : List (List Char)) (hcl : ∀ l ∈ ls, Clean l)
    (hne : ls ≠ []) (hin : Sims 1 inner inner') (tD : BState) (hD : blockTokenize inner mn (stD ls) 0 ls.length = .ok tD)
    (hline : tD.line = ls.length) (hfr : (stD ls).FrameEq tD) :
    ∃ sF, ruleBlockquote codeOn ts' inner' (mn + 1) (stD (ls.map quoteLine)) 0 ls.length false = .ok (true, sF)
      ∧ sF.line = ls.length ∧ sF.lines.length = (stD (ls.map quoteLine)).lines.length
      ∧ sF.tokens = quoteOpen ls.length :: tD.tokens.map (Tok.shift 1) ++ [quoteClose] :=
  quote_rule_law_of codeOn ts' hcl hne (hin.nested mn) hD hline hfr

theorem srcOf_init (ls : List (List Char)) (hne : ls ≠ []) (hcl : ∀ l ∈ ls, Clean l) :
    (srcOf ls).isEmpty = false ∧ initBState (normalize (srcOf ls)) = stD ls := by
  obtain ⟨l0, rest, rfl⟩ := List.exists_cons_of_ne_nil hne
  refine ⟨by simp [srcOf], ?_⟩
  rw [normalize_srcOf _ (fun l hl => ⟨(hcl l hl).2.2.1, (hcl l hl).2.2.2⟩)]
  simp only [initBState, scan_lines _ (fun l hl => ⟨(hcl l hl).1, (hcl l hl).2.1⟩), stD, List.length_map]

theorem parseWith_srcOf {chain : List BRule} {mn : Int} {ls : List (List Char)} {ts : List Tok} (hne : ls ≠ []) (hcl : ∀ l ∈ ls, Clean l) :
    parseWith chain mn (srcOf ls) = .ok ts ↔ ∃ t, blockTokenize chain mn (stD ls) 0 ls.length = .ok t ∧ t.tokens = ts := by
  obtain ⟨e1, e2⟩ := srcOf_init ls hne hcl
  unfold parseWith
  simp only [e1, e2, Bool.false_eq_true, ↓reduceIte]
  rw [show (stD ls).lineMax = ls.length from rfl]
  cases blockTokenize chain mn (stD ls) 0 ls.length with
  | error e => exact ⟨fun h => (nomatch h), fun ⟨_, h, _⟩ => (nomatch h)⟩
  | ok t => exact ⟨fun h => ⟨t, rfl, Except.ok.inj h⟩, fun ⟨_, h, e⟩ => by cases h; exact congrArg Except.ok e⟩

theorem run_to_end (chain : List BRule) (mn : Int) (hok : ∀ r ∈ chain, RuleOK (C01.Lv mn (mn.toNat + 1)) r)
    (hinner : C01.InnerOK mn (mn.toNat + 1) chain) (ls : List (List Char)) (hne : ls ≠ []) :
    ∃ tD, blockTokenize chain mn (stD ls) 0 ls.length = .ok tD ∧ (stD ls).FrameEq tD ∧ tD.line = ls.length := by
  have hn : 0 < ls.length := List.length_pos_iff.mpr hne
  have hlvD : C01.Lv mn (mn.toNat + 1) (stD ls) ls.length := by
    unfold C01.Lv; show mn + 1 ≤ (0 : Int) + ((mn.toNat + 1 : Nat) : Int); omega
  have hlenD : (stD ls).lineMax + 1 ≤ (stD ls).lines.length := by rw [stD_len]; exact Nat.le_refl _
  obtain ⟨tD, hrun, hfr, hpost⟩ := hinner (stD ls) 0 ls.length hlenD (Nat.le_refl _) hlvD
  refine ⟨tD, hrun, hfr, Nat.le_antisymm (hpost.1 hn).2.1 ?_⟩
  refine loop_reaches_end (C01.Lv mn (mn.toNat + 1)) (C01.lv_closed _ _) _ hok mn ls.length _ 0 false (stD ls) tD hlenD
    (Nat.le_refl _) hlvD ?_ hrun hn
  exact fun i l hl => forall_stD (P := fun l => (0 : Int) ≤ l.sCount) (fun x _ => by simp [lineRec, mkLine]) (by simp [sentinelLine]) l
    (List.mem_of_getElem? hl)

/-- The two container laws up to the container rule `r`'s own evaluation (`hrule`).  `Q` is equality for the quote, equality up to
`hidden` for the list item. -/
theorem container_law {inner front rest : List BRule} {r : BRule} {mn mn' : Int} {ls lsT : List (List Char)} {l0 : BLine}
    {Q : List Tok → List Tok → Prop} {wrap : List Tok → List Tok}
    (hok : ∀ q ∈ inner, RuleOK (C01.Lv mn (mn.toNat + 1)) q) (hinner : C01.InnerOK mn (mn.toNat + 1) inner)
    (hne : ls ≠ []) (hcl : ∀ l ∈ ls, Clean l) (hclT : ∀ l ∈ lsT, Clean l) (hlenT : lsT.length = ls.length)
    (h0 : (stD lsT).lines[0]? = some l0) (hne0 : l0.empty = false) (hsc0 : l0.sCount = 0) (hmn' : 0 < mn')
    (hfront : ∀ q ∈ front, q (stD lsT) 0 ls.length false = .ok (false, stD lsT))
    (hrule : ∀ tD, blockTokenize inner mn (stD ls) 0 ls.length = .ok tD → tD.line = ls.length → (stD ls).FrameEq tD →
      ∃ sF, r (stD lsT) 0 ls.length false = .ok (true, sF) ∧ sF.line = ls.length ∧ sF.lines.length = ls.length + 1
        ∧ Q sF.tokens (wrap tD.tokens))
    {tsD : List Tok} (hD : parseWith inner mn (srcOf ls) = .ok tsD) :
    ∃ ts', parseWith (front ++ r :: rest) mn' (srcOf lsT) = .ok ts' ∧ Q ts' (wrap tsD) := by
  have hn : 0 < ls.length := List.length_pos_iff.mpr hne
  obtain ⟨tD, hrun, hfr, hline⟩ := run_to_end _ mn hok hinner ls hne
  obtain ⟨_, ht, rfl⟩ := (parseWith_srcOf hne hcl).1 hD
  obtain rfl := Except.ok.inj (ht.symm.trans hrun)
  obtain ⟨sF, hr, hFline, hFlen, hQ⟩ := hrule _ hrun hline hfr
  refine ⟨sF.tokens, (parseWith_srcOf (List.ne_nil_of_length_pos (by omega)) hclT).2 ⟨{ sF with tight := true }, ?_, rfl⟩, hQ⟩
  have hchain : runBlockChain (front ++ r :: rest) { stD lsT with line := 0 } 0 ls.length = .ok (true, sF) := by
    show runBlockChain _ (stD lsT) 0 _ = _
    rw [runBlockChain_skip _ _ _ _ _ hfront, runBlockChain, hr]
  unfold blockTokenize
  rw [hlenT, show ls.length - 0 + 1 = ls.length - 1 + 2 by omega]
  exact loop_one_block _ mn' ls.length (ls.length - 1) (stD lsT) sF l0 hlenT hn (by rw [stD_len, hlenT]; omega) h0 hne0
    (by rw [hsc0]; exact Int.lt_irrefl 0) (fun h => absurd (show (0 : Int) ≥ mn' from h) (by omega)) hchain hFline (by rw [hFlen, stD_len, hlenT])

theorem quote_law_of (c : MiniCfg) {ts' inner inner' rest : List BRule} {mn : Int} (hmn : 0 ≤ mn) {ls : List (List Char)} (hne : ls ≠ [])
    (hcl : ∀ l ∈ ls, Clean l) (hok : ∀ q ∈ inner, RuleOK (C01.Lv mn (mn.toNat + 1)) q) (hinner : C01.InnerOK mn (mn.toNat + 1) inner)
    (hin : NestedSim 1 inner inner' mn) {tsD : List Tok} (hD : parseWith inner mn (srcOf ls) = .ok tsD) :
    parseWith ((if c.code then [ruleCode c.code] else []) ++ ((if c.fence then [ruleFence c.code] else []) ++
        (ruleBlockquote c.code ts' inner' (mn + 1) :: rest))) (mn + 1) (srcOf (ls.map quoteLine))
      = .ok (quoteOpen ls.length :: tsD.map (Tok.shift 1) ++ [quoteClose]) := by
  have hn : 0 < ls.length := List.length_pos_iff.mpr hne
  have h0 : (stD (ls.map quoteLine)).lines[0]? = some (lineRec (quoteLine ls[0])) := by
    rw [stD_get _ 0 (by simpa using hn)]; simp
  obtain ⟨p1, p2, p3⟩ := quoteRec_props ls[0]
  rw [← List.append_assoc]
  obtain ⟨_, h, rfl⟩ := container_law (Q := Eq) (wrap := fun ts => quoteOpen ls.length :: ts.map (Tok.shift 1) ++ [quoteClose]) (rest := rest)
    (mn' := mn + 1) hok hinner hne hcl
    (fun l hl => by obtain ⟨x, hx, rfl⟩ := List.mem_map.1 hl; exact quoteLine_Clean x (hcl x hx)) (List.length_map _) h0 p1 p3 (by omega)
    (List.forall_mem_append.2 ⟨forall_mem_opt.2 fun _ => code_declines _ _ _ _ _ (getL_of_here h0) (stD_notCode _ _ p3),
      forall_mem_opt.2 fun _ => fence_declines_head _ _ _ _ _ (getL_of_here h0) '>' p2 (by decide) (by decide)⟩)
    (fun tD hrun hline hfr => by
      obtain ⟨sF, h1, h2, h3, h4⟩ := quote_rule_law_of c.code ts' hcl hne hin hrun hline hfr
      exact ⟨sF, h1, h2, by rw [h3, stD_len, List.length_map], h4⟩) hD
  exact h

/-- **C06.quote_law** — for every document `D` given by its lines (no tab, CR, NUL or line feed inside a line; at least one line),
every subset of `code`, `fence`, `hr`, `heading` and every `maxNesting ≥ 0`: prefixing every line of `D` with `"> "` (`">"` for an
empty line) parses, with one more level of nesting allowed, to exactly one block quote spanning all lines whose content is the
token stream of `D` one level deeper — everything the same but `level`. -/
theorem quote_law (c : MiniCfg) (ws : List Nat) (mn : Int) (hmn : 0 ≤ mn) (ls : List (List Char)) (hne : ls ≠ [])
    (hcl : ∀ l ∈ ls, Clean l) (tsD : List Tok) (hD : qParse c ws mn (srcOf ls) = .ok tsD) :
    qParse c ws (mn + 1) (srcOf (ls.map quoteLine)) = .ok (quoteOpen ls.length :: tsD.map (Tok.shift 1) ++ [quoteClose]) := by
  obtain ⟨hok, hinner⟩ := C01.qChain_ok c ws mn (mn.toNat + 1)
  unfold qParse
  rw [show (mn + 1).toNat + 1 = (mn.toNat + 1) + 1 by omega]
  unfold qChain
  simp only [List.append_assoc, List.singleton_append]
  exact quote_law_of c hmn hne hcl hok hinner ((qChain_sims 1 c ws mn (mn.toNat + 1)).nested mn) hD

theorem quote_law_total (c : MiniCfg) (ws : List Nat) (mn : Int) (hmn : 0 ≤ mn) (ls : List (List Char)) (hne : ls ≠ [])
    (hcl : ∀ l ∈ ls, Clean l) :
    ∃ tsD, qParse c ws mn (srcOf ls) = .ok tsD ∧
      qParse c ws (mn + 1) (srcOf (ls.map quoteLine)) = .ok (quoteOpen ls.length :: tsD.map (Tok.shift 1) ++ [quoteClose]) := by
  obtain ⟨tsD, h⟩ := C01.q_total c ws mn (srcOf ls)
  exact ⟨tsD, h, quote_law c ws mn hmn ls hne hcl tsD h⟩

def demoDoc : List (List Char) := ["# h".toList, "".toList, "> q".toList, "lazy".toList, "".toList, "```".toList, "f".toList, "```".toList, "***".toList]

example : demoDoc ≠ [] ∧ (∀ l ∈ demoDoc, Clean l) := by
  refine ⟨by decide +kernel, ?_⟩
  intro l hl
  simp only [demoDoc, List.mem_cons, List.not_mem_nil, or_false] at hl
  rcases hl with rfl | rfl | rfl | rfl | rfl | rfl | rfl | rfl | rfl <;> (unfold Clean; decide +kernel)

example : C01.typesOf (qParse ⟨true, true, true, true⟩ [32, 9, 10] 4 (srcOf demoDoc))
    = some ["heading_open", "inline", "heading_close", "blockquote_open", "paragraph_open", "inline", "paragraph_close", "blockquote_close",
            "fence", "hr"] := by decide +kernel

example : C01.typesOf (qParse ⟨true, true, true, true⟩ [32, 9, 10] 5 (srcOf (demoDoc.map quoteLine)))
    = some ["blockquote_open", "heading_open", "inline", "heading_close", "blockquote_open", "paragraph_open", "inline", "paragraph_close",
            "blockquote_close", "fence", "hr", "blockquote_close"] := by decide +kernel

end MdIt.C06
