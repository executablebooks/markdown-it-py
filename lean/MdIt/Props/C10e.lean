import MdIt.Pipeline
import MdIt.Proofs.ListFacts
import MdIt.Props.C01g
/-!
# C10 (continued) — provenance of inline tokens: what each modelled inline rule adds, through the loop and the second chain

`IAdds2 N r`: whatever the state, a call of `r` only *appends* tokens, each satisfying `N`, and none in silent mode (`Adds N a b`: `b`
is `a` followed by such tokens; `Adds2` with the silent clause; `IAdds` is the one-mode form under the loop's context).  So every
call keeps "every token satisfies `N`", and the parse is treated once for every chain and second chain: the final flush, the
post-processing rules and `fragments_join` keep it for every `N` closed under what they do to a token (`TokClosed`).  Per rule `N` is
left to the caller, who states what the rule's own tokens satisfy (every `adds_*` is `adds_of_leaf` at the rule's description
`C01.Leaf`).
-/
namespace MdIt.C10
open MdIt.C01

def AllTok (N : Tok → Prop) (s : IState) : Prop := ∀ t ∈ s.tokens, N t

def IAdds (N : Tok → Prop) (r : IRule) : Prop :=
  ∀ s silent m s', ICtx s → r s silent = .ok (m, s') → ∃ new, s'.tokens = s.tokens ++ new ∧ ∀ t ∈ new, N t

theorem IAdds.mono {N N' : Tok → Prop} {r : IRule} (h : IAdds N r) (hi : ∀ t, N t → N' t) : IAdds N' r := by
  intro s silent m s' hc hr
  obtain ⟨new, h1, h2⟩ := h s silent m s' hc hr
  exact ⟨new, h1, fun t ht => hi t (h2 t ht)⟩

def Adds (N : Tok → Prop) (a b : List Tok) : Prop := ∃ new, b = a ++ new ∧ ∀ t ∈ new, N t

theorem Adds.refl {N : Tok → Prop} {a : List Tok} : Adds N a a := ⟨[], by simp, by simp⟩

theorem adds_nil {N : Tok → Prop} {s s' : IState} (h : s'.tokens = s.tokens) : ∃ new, s'.tokens = s.tokens ++ new ∧ ∀ t ∈ new, N t :=
  h ▸ Adds.refl

theorem Adds.trans {N : Tok → Prop} {a b c : List Tok} (h1 : Adds N a b) (h2 : Adds N b c) : Adds N a c := by
  obtain ⟨n1, rfl, p1⟩ := h1
  obtain ⟨n2, rfl, p2⟩ := h2
  exact ⟨n1 ++ n2, List.append_assoc _ _ _, fun t ht => (List.mem_append.1 ht).elim (p1 t) (p2 t)⟩

theorem Adds.all {N : Tok → Prop} {a b : List Tok} (h : Adds N a b) (ha : ∀ t ∈ a, N t) : ∀ t ∈ b, N t := by
  obtain ⟨new, rfl, p⟩ := h
  exact fun t ht => (List.mem_append.1 ht).elim (ha t) (p t)

theorem push_adds (s : IState) (ty tag : String) (n : Int) (c m i : String) :
    ∃ lvl lvl' p, (s.push ty tag n c m i).tokens = s.tokens ++ (if s.pending.isEmpty then [] else [mkInlineTok "text" "" 0 lvl' p "" ""])
      ++ [mkInlineTok ty tag n lvl c m i] :=
  ⟨_, _, _, by rw [push_eq]; rfl⟩

theorem adds_flush {N : Tok → Prop} (hText : ∀ lvl c, N (mkInlineTok "text" "" 0 lvl c "" "")) {a b : List Tok} {s : IState} {t : Tok}
    (h : b = a ++ flushed s ++ [t]) (ht : N t) : Adds N a b := by
  refine ⟨_, by rw [h, List.append_assoc], fun x hx => ?_⟩
  rcases List.mem_append.1 hx with hx | hx
  · rw [(mem_flushed.1 hx).2]; exact hText _ _
  · rw [List.mem_singleton.1 hx]; exact ht

theorem push_addsN (N : Tok → Prop) (hText : ∀ lvl c, N (mkInlineTok "text" "" 0 lvl c "" "")) (s : IState) (ty tag : String) (n : Int)
    (c m i : String) (hN : ∀ lvl, N (mkInlineTok ty tag n lvl c m i)) : Adds N s.tokens (s.push ty tag n c m i).tokens :=
  adds_flush hText (s := s) (by rw [push_eq]) (hN _)

/-- the token types the two post-processing rules assign -/
def emTypes : List String := ["em_open", "em_close", "strong_open", "strong_close"]
def sTypes : List String := ["s_open", "s_close"]

def emphTypes (strike emphasis : Bool) : List String := (if emphasis then emTypes else []) ++ (if strike then sTypes else [])

theorem mem_emphTypes {strike emphasis : Bool} {ty : String} :
    ty ∈ emphTypes strike emphasis ↔ (emphasis = true ∧ ty ∈ emTypes) ∨ (strike = true ∧ ty ∈ sTypes) := by
  simp only [emphTypes, List.mem_append, List.mem_ite_nil_right]

theorem not_mem_emphTypes {strike emphasis : Bool} {ty : String} (h : ty ∉ emTypes ++ sTypes) : ty ∉ emphTypes strike emphasis := by
  rw [mem_emphTypes]
  rw [List.mem_append] at h
  exact fun h' => h (h'.elim (fun e => .inl e.2) (fun e => .inr e.2))

structure TokClosed (N : Tok → Prop) (E : List String) : Prop where
  text : ∀ lvl c, N (mkInlineTok "text" "" 0 lvl c "" "")
  setLevel : ∀ t l, N t → N (t.setLevel l)
  setContent : ∀ t c, N t → N (t.setContent c)
  setEmph : ∀ t ty tag n mk, N t → ty ∈ E → N (t.setEmph ty tag n mk)

theorem all_set {N : Tok → Prop} (ts : List Tok) (i : Nat) (a : Tok) (ha : N a) (h : ∀ t ∈ ts, N t) : ∀ t ∈ ts.set i a, N t := by
  intro t ht
  rcases List.mem_or_eq_of_mem_set ht with h' | h'
  · exact h t h'
  · subst h'; exact ha

theorem emphPostGo_toks {N : Tok → Prop} {E : List String} (hN : TokClosed N E) (hE : ∀ ty ∈ emTypes, ty ∈ E) (ds : List Delim)
    (fuel : Nat) (i : Int) (ts : List Tok) (h : ∀ t ∈ ts, N t) : ∀ t ∈ emphPostGo ds fuel i ts, N t := by
  have e1 : ∀ (b : Bool) (a a' tag : String) (nn : Int) (mk : String), a ∈ emTypes → a' ∈ emTypes → ∀ t, N t →
      N (t.setEmph (if b then a else a') tag nn mk) :=
    fun b a a' tag nn mk ha ha' t ht => hN.setEmph t _ tag nn mk ht (hE _ (by cases b <;> assumption))
  obtain ⟨_, h'⟩ := emphPostGo_ind ds (fun _ ts => ∀ t ∈ ts, N t) (fun _ _ _ _ h => h)
    (fun _ ts sd ed strong mk _ _ _ _ h => forall_mem_modify (e1 strong _ _ _ _ _ (by decide) (by decide)) _
      (forall_mem_modify (e1 strong _ _ _ _ _ (by decide) (by decide)) _ h))
    (fun _ ts p h => forall_mem_modify (fun t ht => hN.setContent t "" ht) _ h) fuel i ts h
  exact h'

theorem strikeMark_toks {N : Tok → Prop} {E : List String} (hN : TokClosed N E) (hE : ∀ ty ∈ sTypes, ty ∈ E) (ds : List Delim)
    (fuel i : Nat) (ts : List Tok) (lone : List Nat) (h : ∀ t ∈ ts, N t) : ∀ t ∈ (strikeMark ds fuel i ts lone).1, N t := by
  fun_induction strikeMark ds fuel i ts lone
  case case3 ih | case4 ih => exact ih h
  case case6 ih =>
    exact ih (forall_mem_modify (fun t ht => hN.setEmph t _ _ _ _ ht (hE _ (by decide))) _
      (forall_mem_modify (fun t ht => hN.setEmph t _ _ _ _ ht (hE _ (by decide))) _ h))
  all_goals exact h

theorem strikeSwap_toks {N : Tok → Prop} (lone : List Nat) (ts : List Tok) (h : ∀ t ∈ ts, N t) : ∀ t ∈ strikeSwap lone ts, N t := by
  fun_induction strikeSwap lone ts
  case case1 => exact h
  case case2 i rest ts j ts' ih =>
    refine ih ?_
    simp only [ts']
    split
    · split
      · rename_i a b ha hb
        exact all_set _ _ _ (h b (List.mem_of_getElem? hb)) (all_set _ _ _ (h a (List.mem_of_getElem? ha)) h)
      · exact h
    · exact h

theorem fragmentsJoin_toks {N : Tok → Prop} {E : List String} (hN : TokClosed N E) (level : Int) (ts : List Tok) (h : ∀ t ∈ ts, N t) :
    ∀ t ∈ fragmentsJoin level ts, N t :=
  fragmentsJoin_forall hN.setLevel (fun t c _ => hN.setContent t c) level ts h

theorem strikeGo_toks {N : Tok → Prop} {E : List String} (hN : TokClosed N E) (hE : ∀ ty ∈ sTypes, ty ∈ E) (ds : List Delim) (ts : List Tok)
    (h : ∀ t ∈ ts, N t) : ∀ t ∈ strikeSwap (strikeMark ds ds.length 0 ts []).2.reverse (strikeMark ds ds.length 0 ts []).1, N t :=
  strikeSwap_toks _ _ (strikeMark_toks hN hE _ _ _ _ _ h)

theorem sminiPost_toks {N : Tok → Prop} (strike emphasis : Bool) (hN : TokClosed N (emphTypes strike emphasis)) (s : IState) (h : AllTok N s) :
    AllTok N ((sminiPost strike emphasis).foldl (fun acc f => f acc) s) := by
  refine foldl_keeps (AllTok N) _ _ s ?_ h
  intro s f hf h
  simp only [sminiPost, List.mem_append, List.mem_ite_nil_right, List.mem_singleton] at hf
  rcases hf with (⟨_, rfl⟩ | ⟨hst, rfl⟩) | ⟨hem, rfl⟩
  · exact h
  · exact strikeGo_toks hN (fun ty hty => mem_emphTypes.2 (.inr ⟨hst, hty⟩)) _ _ h
  · exact emphPostGo_toks hN (fun ty hty => mem_emphTypes.2 (.inl ⟨hem, hty⟩)) _ _ _ _ h

def Adds2 (N : Tok → Prop) (silent : Bool) (a b : List Tok) : Prop :=
  ∃ new, b = a ++ new ∧ (∀ t ∈ new, N t) ∧ (silent = true → new = [])

theorem Adds2.nil {N : Tok → Prop} {silent : Bool} {a b : List Tok} (h : b = a) : Adds2 N silent a b :=
  ⟨[], by simp [h], by simp, fun _ => rfl⟩

theorem Adds2.loud {N : Tok → Prop} {silent : Bool} {a b : List Tok} (hs : silent = false) (h : Adds N a b) : Adds2 N silent a b := by
  obtain ⟨new, e, p⟩ := h
  exact ⟨new, e, p, by simp [hs]⟩

theorem Adds2.adds {N : Tok → Prop} {silent : Bool} {a b : List Tok} (h : Adds2 N silent a b) : Adds N a b :=
  let ⟨new, e, p, _⟩ := h; ⟨new, e, p⟩

theorem Adds2.eq_of_silent {N : Tok → Prop} {a b : List Tok} (h : Adds2 N true a b) : b = a := by
  obtain ⟨new, e, _, hnil⟩ := h
  rw [e, hnil rfl, List.append_nil]

def IAdds2 (N : Tok → Prop) (r : IRule) : Prop := ∀ s silent m s', r s silent = .ok (m, s') → Adds2 N silent s.tokens s'.tokens

theorem IAdds2.adds {N : Tok → Prop} {r : IRule} (h : IAdds2 N r) : IAdds N r :=
  fun s silent m s' _ hr => (h s silent m s' hr).adds

theorem adds_of_leaf {T r} {N : Tok → Prop} (h : Leaf T r) (hText : ∀ lvl c, N (mkInlineTok "text" "" 0 lvl c "" ""))
    (hT : ∀ s op, T s op → ∀ lvl, N (op.tok lvl)) : IAdds2 N r := by
  intro s silent m s' hr
  obtain ⟨ops, pre, d⟩ := h.did hr
  refine ⟨pre ++ opToks s.level ops, d.app.tokens, fun t ht => ?_, fun hs => ?_⟩
  · rcases List.mem_append.1 ht with ht | ht
    · obtain ⟨lvl, c, rfl⟩ := d.flush t ht; exact hText lvl c
    · obtain ⟨op, hop, l', rfl⟩ := mem_opToks ht; exact hT s op (d.steps op hop) l'
  · rw [d.silent hs, d.quiet (d.silent hs)]; rfl

theorem loop_toks {N : Tok → Prop} {rules : List IRule} (had : ∀ r ∈ rules, IAdds2 N r) (mn : Int) (e fuel : Nat) (ok : Bool) (s s' : IState)
    (h : tokenizeLoop rules mn e fuel ok s = .ok s') : Adds N s.tokens s'.tokens :=
  tokenizeLoop_keepsI (J := fun x => Adds N s.tokens x.tokens) (fun _ _ h => h)
    (fun r hr x silent hx a ha => hx.trans (had r hr x silent a.1 a.2 ha).adds) mn e fuel ok s .refl s' h

theorem inlineParse_all {N : Tok → Prop} {E : List String} (hN : TokClosed N E) (rules : List IRule) (had : ∀ r ∈ rules, IAdds2 N r)
    (post : List (IState → IState)) (hpost : ∀ s, AllTok N s → AllTok N (post.foldl (fun acc f => f acc) s))
    (fragJoin : Bool) (mn : Int) (src : List Char) (ts : List Tok) (h : inlineParse rules post fragJoin mn src = .ok ts) : ∀ t ∈ ts, N t := by
  obtain ⟨s, htk, rfl⟩ := inlineParse_ok h
  have h3 := hpost s (tokenize_keepsI (J := AllTok N) (fun _ _ h => h)
    (fun s h t ht => (List.mem_append.1 ht).elim (h t) fun ht => List.mem_singleton.1 ht ▸ hN.text _ _)
    (fun r hr s silent h a ha => (had r hr s silent a.1 a.2 ha).adds.all h) mn _ (fun _ ht => by cases ht) s htk)
  split
  · exact fragmentsJoin_toks hN 0 _ h3
  · exact h3

theorem inlineParse_toks {N : Tok → Prop} (strike emphasis : Bool) (hN : TokClosed N (emphTypes strike emphasis)) (rules : List IRule)
    (had : ∀ r ∈ rules, IAdds2 N r) (fragJoin : Bool) (mn : Int) (src : List Char) (ts : List Tok)
    (h : inlineParse rules (sminiPost strike emphasis) fragJoin mn src = .ok ts) : ∀ t ∈ ts, N t :=
  inlineParse_all hN rules had _ (sminiPost_toks strike emphasis hN) fragJoin mn src ts h

section rules
variable {N : Tok → Prop} (hText : ∀ lvl c, N (mkInlineTok "text" "" 0 lvl c "" ""))
include hText

theorem adds_text : IAdds2 N ruleText := adds_of_leaf leaf_text hText fun _ _ h => h.elim

theorem adds_newline (hH : ∀ lvl, N (mkInlineTok "hardbreak" "br" 0 lvl "" "" "")) (hS : ∀ lvl, N (mkInlineTok "softbreak" "br" 0 lvl "" "" "")) :
    IAdds2 N ruleNewline :=
  adds_of_leaf leaf_newline hText fun _ _ ⟨_, h, e⟩ lvl => by
    subst e
    rcases h with rfl | rfl
    · exact hH lvl
    · exact hS lvl

theorem adds_escape (hH : ∀ lvl, N (mkInlineTok "hardbreak" "br" 0 lvl "" "" ""))
    (hE : ∀ lvl c mk, N (mkInlineTok "text_special" "" 0 lvl c mk "escape")) : IAdds2 N ruleEscape :=
  adds_of_leaf leaf_escape hText fun _ _ h lvl => by
    rcases h with rfl | ⟨c, mk, rfl⟩
    · exact hH lvl
    · exact hE lvl c mk

theorem adds_backticks (hC : ∀ lvl c mk, N (mkInlineTok "code_inline" "code" 0 lvl c mk "")) : IAdds2 N ruleBackticks :=
  adds_of_leaf leaf_backticks hText fun _ _ ⟨_, _, _, _, _, e⟩ lvl => e ▸ hC lvl _ _

theorem adds_emphasis (cls : QCls) : IAdds2 N (ruleEmphasis cls) :=
  adds_of_leaf (leaf_emphasis cls) hText fun _ _ ⟨_, _, _, _, _, e⟩ lvl => e ▸ hText lvl _

theorem adds_strike (cls : QCls) : IAdds2 N (ruleStrike cls) :=
  adds_of_leaf (leaf_strike cls) hText fun _ _ h lvl => by rcases h with rfl | ⟨_, _, rfl⟩ <;> exact hText lvl _

theorem adds_entity (ext : IExt) (hE : ∀ lvl c mk, N (mkInlineTok "text_special" "" 0 lvl c mk "entity")) : IAdds2 N (ruleEntity ext) :=
  adds_of_leaf (leaf_entity ext) hText fun _ _ ⟨c, mk, e⟩ lvl => e ▸ hE lvl c mk

theorem adds_htmlInline (ext : IExt) (hH : ext.html = true → ∀ lvl c, N (mkInlineTok "html_inline" "" 0 lvl c "" "")) :
    IAdds2 N (ruleHtmlInline ext) :=
  adds_of_leaf (leaf_htmlInline ext) hText fun _ _ ⟨hon, c, e⟩ lvl => e ▸ hH hon lvl c

theorem adds_autolink (ext : IExt)
    (hO : ∀ lvl u, validateLink (ext.normLink u) = true →
      N ((mkInlineTok "link_open" "a" 1 lvl "" "autolink" "auto").setAttrs' [("href", .s (String.ofList (ext.normLink u)))]))
    (hC : ∀ lvl, N (mkInlineTok "link_close" "a" (-1) lvl "" "autolink" "auto")) : IAdds2 N (ruleAutolink ext) :=
  adds_of_leaf (leaf_autolink ext) hText fun _ op ⟨u, url, hv, hm⟩ lvl => by
    simp only [autolinkOps, List.mem_cons, List.not_mem_nil, or_false] at hm
    rcases hm with rfl | rfl | rfl
    · exact hO lvl u hv
    · exact hText lvl _
    · exact hC lvl

end rules

/-- the href contract of an autolink's opening token -/
def HrefOK (ext : IExt) (t : Tok) : Prop :=
  ∃ u, t.attrs = [("href", .s (String.ofList (ext.normLink u)))] ∧ validateLink (ext.normLink u) = true

/-- the token types the enabled rules can produce -/
def xVocab (ext : IExt) (c : IMiniCfg) (strike emphasis autolink htmlInline entity : Bool) : List String :=
  ["text"] ++ (if c.newline then ["hardbreak", "softbreak"] else []) ++ (if c.escape then ["hardbreak", "text_special"] else [])
    ++ (if c.backticks then ["code_inline"] else []) ++ emphTypes strike emphasis
    ++ (if autolink then ["link_close"] else []) ++ (if htmlInline && ext.html then ["html_inline"] else [])
    ++ (if entity then ["text_special"] else [])

/-- the token types the enabled inline rules (and the second chain) can produce -/
def inlineAllowed (html : Bool) (ic : ICfg) : List String :=
  ["text"] ++ (if ic.newline || ic.escape then ["hardbreak"] else []) ++ (if ic.newline then ["softbreak"] else [])
    ++ (if ic.escape || ic.entity then ["text_special"] else []) ++ (if ic.backticks then ["code_inline"] else [])
    ++ (if ic.link || ic.autolink then ["link_open", "link_close"] else []) ++ (if ic.image then ["image"] else [])
    ++ (if ic.htmlInline && html then ["html_inline"] else []) ++ emphTypes ic.strike ic.emphasis

/-- what is true of every token the inline sub-parser emits: a `link_open` comes from the autolink rule and carries a normalised,
    validated `href` and nothing else; every other token has a type in the vocabulary of the enabled rules and (unless it is one of the
    retyped emphasis / strikethrough tokens) no attributes -/
def XTok (ext : IExt) (c : IMiniCfg) (strike emphasis autolink htmlInline entity : Bool) (t : Tok) : Prop :=
  (t.type = "link_open" ∧ autolink = true ∧ HrefOK ext t)
    ∨ (t.type ∈ xVocab ext c strike emphasis autolink htmlInline entity ∧ (t.type ∉ emphTypes strike emphasis → t.attrs = []))

theorem mem_xVocab {ext : IExt} {c : IMiniCfg} {strike emphasis autolink htmlInline entity : Bool} {ty : String} :
    ty ∈ xVocab ext c strike emphasis autolink htmlInline entity ↔
      ty = "text" ∨ (c.newline = true ∧ (ty = "hardbreak" ∨ ty = "softbreak")) ∨ (c.escape = true ∧ (ty = "hardbreak" ∨ ty = "text_special"))
        ∨ (c.backticks = true ∧ ty = "code_inline") ∨ ty ∈ emphTypes strike emphasis ∨ (autolink = true ∧ ty = "link_close")
        ∨ ((htmlInline && ext.html) = true ∧ ty = "html_inline") ∨ (entity = true ∧ ty = "text_special") := by
  simp only [xVocab, List.mem_append, List.mem_ite_nil_right, List.mem_cons, List.not_mem_nil, or_false, or_assoc]

@[simp] theorem setLevel_attrs (t : Tok) (l : Int) : (t.setLevel l).attrs = t.attrs := Tok.setLevel_attrs t l
@[simp] theorem setContent_attrs (t : Tok) (c : String) : (t.setContent c).attrs = t.attrs := Tok.setContent_attrs t c
@[simp] theorem setLevel_type' (t : Tok) (l : Int) : (t.setLevel l).type = t.type := Tok.setLevel_type t l
@[simp] theorem setContent_type' (t : Tok) (c : String) : (t.setContent c).type = t.type := Tok.setContent_type t c

section prov
variable (ext : IExt) (c : IMiniCfg) (strike emphasis autolink htmlInline entity : Bool)

theorem plain_ok (ty : String) (h : ty ∈ xVocab ext c strike emphasis autolink htmlInline entity) (tag : String) (n lvl : Int)
    (co m i : String) : XTok ext c strike emphasis autolink htmlInline entity (mkInlineTok ty tag n lvl co m i) :=
  .inr ⟨h, fun _ => rfl⟩

theorem xTok_closed : TokClosed (XTok ext c strike emphasis autolink htmlInline entity) (emphTypes strike emphasis) := by
  refine ⟨fun lvl co => plain_ok _ _ _ _ _ _ _ "text" (by simp [xVocab]) _ _ _ _ _ _, ?_, ?_, ?_⟩
  · intro t l h
    unfold XTok HrefOK at *
    simpa using h
  · intro t co h
    unfold XTok HrefOK at *
    simpa using h
  · intro t ty tag n mk _ hty
    right
    simp only [Tok.setEmph_type, Tok.setEmph_attrs]
    refine ⟨?_, fun hn => absurd hty hn⟩
    simp only [xVocab, List.mem_append]
    exact .inl (.inl (.inl (.inr hty)))

theorem xminiChain_adds (cls : QCls) :
    ∀ r ∈ xminiChain cls ext c strike emphasis autolink htmlInline entity, IAdds2 (XTok ext c strike emphasis autolink htmlInline entity) r := by
  have hText : ∀ lvl co, XTok ext c strike emphasis autolink htmlInline entity (mkInlineTok "text" "" 0 lvl co "" "") :=
    fun lvl co => (xTok_closed ext c strike emphasis autolink htmlInline entity).text lvl co
  have ok : ∀ ty, ty ∈ xVocab ext c strike emphasis autolink htmlInline entity → ∀ tag n lvl co m i,
      XTok ext c strike emphasis autolink htmlInline entity (mkInlineTok ty tag n lvl co m i) :=
    fun ty h tag n lvl co m i => plain_ok ext c strike emphasis autolink htmlInline entity ty h tag n lvl co m i
  exact xminiChain_forall (sminiChain_forall (iminiChain_forall (adds_text hText)
        (fun hf => adds_newline hText (fun _ => ok "hardbreak" (by simp [xVocab, hf]) _ _ _ _ _ _)
          (fun _ => ok "softbreak" (by simp [xVocab, hf]) _ _ _ _ _ _))
        (fun hf => adds_escape hText (fun _ => ok "hardbreak" (by simp [xVocab, hf]) _ _ _ _ _ _)
          (fun _ _ _ => ok "text_special" (by simp [xVocab, hf]) _ _ _ _ _ _))
        (fun hf => adds_backticks hText (fun _ _ _ => ok "code_inline" (by simp [xVocab, hf]) _ _ _ _ _ _)))
      (fun _ => adds_strike hText cls) (fun _ => adds_emphasis hText cls))
    (fun hf => adds_autolink hText ext (fun lvl u hv => .inl ⟨rfl, hf, u, rfl, hv⟩)
      (fun _ => ok "link_close" (by simp [xVocab, hf]) _ _ _ _ _ _))
    (fun hf => adds_htmlInline hText ext (fun hon _ _ => ok "html_inline" (by simp [xVocab, hf, hon]) _ _ _ _ _ _))
    (fun hf => adds_entity hText ext (fun _ _ _ => ok "text_special" (by simp [xVocab, hf]) _ _ _ _ _ _))

/-- **C10.xmini_provenance** — every token of the inline sub-parser's output (nine of the twelve inline rules, any subset, any
`maxNesting`, classification, external functions, with or without `fragments_join`) is accounted for by an enabled rule -/
theorem xmini_provenance (cls : QCls) (fragJoin : Bool) (mn : Int) (src : List Char) (ts : List Tok)
    (h : inlineParse (xminiChain cls ext c strike emphasis autolink htmlInline entity) (sminiPost strike emphasis) fragJoin mn src = .ok ts) :
    ∀ t ∈ ts, XTok ext c strike emphasis autolink htmlInline entity t :=
  inlineParse_toks strike emphasis (xTok_closed ext c strike emphasis autolink htmlInline entity) _
    (xminiChain_adds ext c strike emphasis autolink htmlInline entity cls) fragJoin mn src ts h

/-- a rule that is switched off leaves no token of its own: no code span without `backticks`, no `s`/`em`/`strong` without
    `strikethrough` / `emphasis`, no link without `autolink`, no raw HTML without `html_inline` *and* the `html` option -/
theorem xmini_switches (cls : QCls) (fragJoin : Bool) (mn : Int) (src : List Char) (ts : List Tok)
    (h : inlineParse (xminiChain cls ext c strike emphasis autolink htmlInline entity) (sminiPost strike emphasis) fragJoin mn src = .ok ts)
    (t : Tok) (ht : t ∈ ts) :
    (c.backticks = false → t.type ≠ "code_inline") ∧ (strike = false → t.type ∉ sTypes) ∧ (emphasis = false → t.type ∉ emTypes)
      ∧ (autolink = false → t.type ≠ "link_open" ∧ t.type ≠ "link_close")
      ∧ ((htmlInline && ext.html) = false → t.type ≠ "html_inline")
      ∧ (c.escape = false → entity = false → t.type ≠ "text_special") := by
  rcases xmini_provenance ext c strike emphasis autolink htmlInline entity cls fragJoin mn src ts h t ht with ⟨hty, ha, _⟩ | ⟨hv, _⟩
  · rw [hty]
    refine ⟨fun _ => by decide, fun _ => by decide, fun _ => by decide, ?_, fun _ => by decide, fun _ _ => by decide⟩
    intro hf; rw [ha] at hf; cases hf
  · rw [mem_xVocab, mem_emphTypes] at hv
    refine ⟨?_, ?_, ?_, ?_, ?_, ?_⟩
    · intro hf heq; simp [heq, hf, emTypes, sTypes] at hv
    · intro hf hm; simp only [sTypes, List.mem_cons, List.not_mem_nil, or_false] at hm
      rcases hm with heq | heq <;> simp [heq, hf, emTypes] at hv
    · intro hf hm; simp only [emTypes, List.mem_cons, List.not_mem_nil, or_false] at hm
      rcases hm with heq | heq | heq | heq <;> simp [heq, hf, sTypes] at hv
    · intro hf
      constructor <;> intro heq <;> simp [heq, hf, emTypes, sTypes] at hv
    · intro hf heq; simp [heq, hf, emTypes, sTypes] at hv
    · intro hf1 hf2 heq; simp [heq, hf1, hf2, emTypes, sTypes] at hv

end prov

end MdIt.C10
