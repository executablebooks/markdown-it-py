import MdIt.InlineImage
import MdIt.Props.C01i
/-!
# C01 (continued) — the inline sub-parser with the `image` rule returns for every input

The image rule re-enters the engine in a third way: a match in normal mode runs the *whole* inline parser on the description.  The
two-mode contract `IOK4` of `C01i` is proved for the rule given (a) the contract for its inner chain (the label walks) and (b) that the
nested parser returns on every input; both come from the induction on the depth budget, because a chain that keeps the contract
makes `inlineParse` total.
-/
namespace MdIt.C01

theorem imageInline_ge (ext : IExt) (s : IState) (labelEnd maximum pos : Nat) (h t : List Char)
    (hi : imageInline ext s labelEnd maximum = some (pos, h, t)) : labelEnd + 1 ≤ pos := by
  unfold imageInline at hi
  simp only at hi
  have hp1 := skipBlanksNl_ge s.src maximum (maximum - (labelEnd + 1)) (labelEnd + 2)
  split at hi
  · cases hi
  · have := imageDestTitle_ge ext s maximum (skipBlanksNl s.src maximum (maximum - (labelEnd + 1)) (labelEnd + 2))
    split at hi
    · cases hi
    · simp only [Option.some.injEq, Prod.mk.injEq] at hi
      omega

theorem imageEmit4 (lx : LExt) (parse : List Char → Except PyErr (List Tok)) (hparse : ∀ c, ∃ ts, parse c = .ok ts) (s : IState)
    (labelStart labelEnd : Nat) (href title label : List Char) (hk : CacheOK s) :
    ∃ s3, imageEmit lx parse s labelStart labelEnd href title label = .ok s3 ∧ s3.src = s.src ∧ s3.level = s.level
      ∧ s3.scopes = s.scopes ∧ s3.openAt = s.openAt ∧ CacheOK s3 := by
  unfold imageEmit
  obtain ⟨ts, hts⟩ := hparse ((s.src.take labelEnd).drop labelStart)
  simp only [hts, pushImage_eq]
  exact ⟨_, rfl, rfl, rfl, rfl, rfl, hk⟩

theorem imageFound4 (ext : IExt) (lx : LExt) (mn : Int) (inner : List IRule) (hok : ∀ r ∈ inner, IOK4 r) (s : IState)
    (labelStart labelEnd maximum : Nat) (hend : s.posMax ≤ s.src.length) (hk : CacheOK s) :
    ∃ s2 o, imageFound ext lx mn inner s labelStart labelEnd maximum = .ok (s2, o) ∧ Fr4 s s2 ∧ s2.pos = s.pos
      ∧ (∀ pos h t l, o = some (pos, h, t, l) → labelEnd + 1 ≤ pos) := by
  unfold imageFound
  split
  · cases hi : imageInline ext s labelEnd maximum with
    | none => exact ⟨s, none, rfl, ⟨rfl, rfl, rfl, rfl, rfl, hk⟩, rfl, fun _ _ _ _ he => by cases he⟩
    | some q =>
      have hge := imageInline_ge _ _ _ _ _ _ _ hi
      exact ⟨s, _, rfl, ⟨rfl, rfl, rfl, rfl, rfl, hk⟩, rfl, fun pos' h t l he => by simp only [Option.some.injEq, Prod.mk.injEq] at he; omega⟩
  · exact linkRef4 lx mn inner hok s labelStart labelEnd maximum (labelEnd + 1) hend hk (Nat.le_refl _)

theorem imageFind4 (ext : IExt) (lx : LExt) (mn : Int) (inner : List IRule) (hok : ∀ r ∈ inner, IOK4 r) (s : IState) (hc : ICtx s)
    (hk : CacheOK s) :
    ∃ s2 o, imageFind ext lx mn inner s = .ok (s2, o) ∧ Fr4 s s2 ∧ s2.pos = s.pos ∧ ∀ f, o = some f → f.labelEnd < s.posMax ∧ s.pos < f.pos := by
  unfold imageFind
  obtain ⟨r, s1, h1, hfr1, hpos1, hr1⟩ := parseLinkLabel4 inner hok mn s (s.pos + 1) false hc.2 hk
  rw [h1]
  dsimp only
  by_cases hneg : r < 0
  · rw [if_pos hneg]; exact ⟨s1, none, rfl, hfr1, hpos1, nofun⟩
  · rw [if_neg hneg]
    obtain ⟨hlo, hhi⟩ := hr1 (by omega)
    obtain ⟨s2, o, h2, hfr2, hpos2, hge⟩ := imageFound4 ext lx mn inner hok s1 (s.pos + 2) r.toNat s.posMax
      (by rw [hfr1.src, hfr1.posMax]; exact hc.2) hfr1.cache
    rw [h2]
    cases o with
    | none => exact ⟨_, none, rfl, hfr1.trans hfr2, rfl, nofun⟩
    | some q2 =>
      obtain ⟨pos, href, title, label⟩ := q2
      have := hge pos href title label rfl
      exact ⟨s2, _, rfl, hfr1.trans hfr2, hpos2.trans hpos1, fun f hf => by cases hf; exact ⟨hhi, by show s.pos < pos; omega⟩⟩

theorem iok4_image (ext : IExt) (lx : LExt) (mn : Int) (inner : List IRule) (hok : ∀ r ∈ inner, IOK4 r)
    (parse : List Char → Except PyErr (List Tok)) (hparse : ∀ c, ∃ ts, parse c = .ok ts) : IOK4 (ruleImage ext lx mn inner parse) := by
  rw [ruleImage_eq]
  refine bracket_ok4 (fun s hc => ?_) (imageFind4 ext lx mn inner hok) (fun s s2 f _ => imageEmit4 lx parse hparse s2 _ _ _ _ _)
  have hsec : ∃ b, imageSecond s = .ok b := by
    unfold imageSecond
    by_cases hlt : s.pos + 1 < s.posMax
    · rw [if_pos hlt, List.getElem?_eq_getElem (by have := hc.2; omega)]; exact ⟨_, rfl⟩
    · rw [if_neg hlt]; exact ⟨_, rfl⟩
  obtain ⟨b, hb⟩ := hsec
  unfold imageHead
  rw [List.getElem?_eq_getElem (ictx_lt hc), hb]
  dsimp only
  split <;> exact ⟨_, rfl⟩

theorem imgChain_ok4 (cls : QCls) (ext : IExt) (lx : LExt)
    (text newline escape backticks strike emphasis link image autolink htmlInline entity fragJoin : Bool) (mn : Int) :
    ∀ d : Nat, ∀ r ∈ imgChain cls ext lx text newline escape backticks strike emphasis link image autolink htmlInline entity fragJoin mn d, IOK4 r :=
  imgChain_forall (fun _ => iok4_text) (fun _ => iok4_newline) (fun _ => iok4_escape) (fun _ => iok4_backticks) (fun _ => iok4_strike cls)
    (fun _ => iok4_emphasis cls) (fun _ _ _ _ => iok4_link ext lx mn _)
    (fun _ _ _ _ ih => iok4_image ext lx mn _ ih _ (parse_total_of_ok4 _ ih _ _ _))
    (fun _ => iok4_autolink ext) (fun _ => iok4_htmlInline ext) (fun _ => iok4_entity ext)

/-- **C01.image_total** — the inline sub-parser with the `link` and `image` rules (eleven of the twelve inline rules; everything the
inline parser can run without the optional linkifier): for every source, every subset of the eleven rules, `maxNesting`, budget,
classification, external functions and reference table the parse — tokenize loop, the nested parses of image descriptions to any
depth, the second chain over all delimiter scopes — returns a token list. -/
theorem image_total (cls : QCls) (ext : IExt) (lx : LExt)
    (text newline escape backticks strike emphasis link image autolink htmlInline entity fragJoin : Bool) (mn : Int) (d : Nat) (src : List Char) :
    ∃ ts, inlineParse (imgChain cls ext lx text newline escape backticks strike emphasis link image autolink htmlInline entity fragJoin mn d)
      (imgPost strike emphasis) fragJoin mn src = .ok ts :=
  parse_total_of_ok4 _ (imgChain_ok4 cls ext lx text newline escape backticks strike emphasis link image autolink htmlInline entity fragJoin mn d) _ _ _ _

/-- the kinds of the tokens of a stream, children in brackets after their image -/
def itypesDeep : List Tok → List String
  | [] => []
  | t :: ts => (t.type :: (match t.children with | some cs => ["("] ++ cs.map Tok.type ++ [")"] | none => [])) ++ itypesDeep ts

/-! non-vacuity: images in the inline and the reference form, one rejected destination, an image in a link, an image in an image -/
example : (match inlineParse (imgChain ⟨fun c => (33 ≤ c && c ≤ 47) || (58 ≤ c && c ≤ 64) || (91 ≤ c && c ≤ 96) || (123 ≤ c && c ≤ 126),
        fun c => c == 32 || c == 9 || c == 10⟩ { entity := fun _ => none, reformat := id, normText := id, html := false } lx0
        true true true true false true true true false false false true 20 30) (imgPost false true) true 20
      "![a *b*](/u \"t\") ![x](javascript:y) ![z][r] [![i](s)](v) ![p ![q](w)](o)".toList with
      | .ok ts => some (itypesDeep ts) | .error _ => none)
    = some ["image", "(", "text", "em_open", "text", "em_close", ")", "text", "image", "(", "text", ")", "text",
            "link_open", "image", "(", "text", ")", "link_close", "text", "image", "(", "text", "image", ")"] := by decide +kernel

end MdIt.C01
