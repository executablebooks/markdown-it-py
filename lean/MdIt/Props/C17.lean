import MdIt.Str
import MdIt.Proofs.Str
/-!
# C17 — equivalent encodings parse identically: line endings, NUL, structural tabs

`normalize` is the first core rule in `Gen.coreRules` (the regenerated table; no theorem states it) and nothing else reads the raw
source, so equal `normalize` results mean equal token streams (maps included) and equal rendered output.
-/
namespace MdIt.C17

def noCR (s : List Char) : Prop := '\r' ∉ s

theorem noCR_tail {c : Char} {s : List Char} (h : noCR (c :: s)) : noCR s := fun m => h (List.mem_cons_of_mem _ m)

theorem noCR_head {c : Char} {s : List Char} (h : noCR (c :: s)) : c ≠ '\r' := fun e => h (by simp [e])

theorem normNewlines_of_noCR (s : List Char) (h : noCR s) : normNewlines s = s := by
  induction s with
  | nil => rfl
  | cons c rest ih =>
    rw [nn_other c rest (noCR_head h), ih (noCR_tail h)]

/-- **C17.mixed_same** (newlines: mixtures) — every spelling of the line feeds of a CR-free source (LF, CR LF,
lone CR, independently per line ending, a lone CR not directly before an LF: `Mixed`) normalises to the source itself. -/
theorem mixed_same (s s' : List Char) (hm : Mixed s s') (h : noCR s) :
    normNewlines s' = s := by
  induction hm with
  | nil => rfl
  | keep c hc hm ih => rw [nn_other c _ (noCR_head h), ih (noCR_tail h)]
  | lf hm ih => rw [nn_other '\n' _ (by decide), ih (noCR_tail h)]
  | crlf hm ih => rw [nn_crlf, ih (noCR_tail h)]
  | cr hm hne ih => rw [nn_cr _ hne, ih (noCR_tail h)]

theorem normalize_mixed (s s' : List Char) (hm : Mixed s s') (h : noCR s) :
    normalize s' = normalize s := by
  unfold normalize; rw [mixed_same s s' hm h, normNewlines_of_noCR s h]

theorem mixed_toCRLF (s : List Char) : Mixed s (toCRLF s) := by
  induction s with
  | nil => exact .nil
  | cons c rest ih =>
    by_cases hn : c = '\n'
    · subst hn; exact .crlf ih
    · simp only [toCRLF, List.flatMap_cons, hn, if_false, List.cons_append, List.nil_append]
      exact .keep c hn ih

/-- **C17.crlf_same** (newlines: CR LF) -/
theorem crlf_same (s : List Char) (h : noCR s) : normalize (toCRLF s) = normalize s :=
  normalize_mixed s _ (mixed_toCRLF s) h

theorem mixed_toCR (s : List Char) (h : noCR s) : Mixed s (toCR s) := by
  induction s with
  | nil => exact .nil
  | cons c rest ih =>
    by_cases hn : c = '\n'
    · subst hn
      simp only [toCR, List.map_cons, if_true]
      refine .cr (ih (noCR_tail h)) ?_
      cases rest with
      | nil => simp
      | cons d r => simp only [List.map_cons, List.head?_cons]; by_cases hd : d = '\n' <;> simp [hd]
    · simp only [toCR, List.map_cons, hn, if_false]
      exact .keep c hn (ih (noCR_tail h))

/-- **C17.cr_same** (newlines: lone CR) -/
theorem cr_same (s : List Char) (h : noCR s) : normalize (toCR s) = normalize s :=
  normalize_mixed s _ (mixed_toCR s h) h

theorem head_ne_lf {rest : List Char} (hne : ∀ r, rest = '\n' :: r → False) : rest.head? ≠ some '\n' := by
  cases rest with
  | nil => simp
  | cons d r => simp; intro e; exact hne r (by rw [e])

theorem noCR_normNewlines (t : List Char) : '\r' ∉ normNewlines t := by
  induction t using normNewlines.induct with
  | case1 => simp
  | case2 rest ih => rw [nn_crlf]; simp [ih]
  | case3 rest hne ih =>
    rw [nn_cr rest (head_ne_lf hne)]
    simp [ih]
  | case4 c rest h1 h2 ih =>
    have hc : c ≠ '\r' := h2
    rw [nn_other c rest hc]
    simp only [List.mem_cons, not_or]
    exact ⟨fun e => hc e.symm, ih⟩

/-- no CR and no NUL ever reaches the parser (hence a token's content) -/
theorem normalize_clean (s : List Char) : '\r' ∉ normalize s ∧ '\x00' ∉ normalize s := by
  constructor
  · intro hm
    simp only [normalize, normNul, List.mem_map] at hm
    obtain ⟨c, hc, hcr⟩ := hm
    by_cases h0 : c = '\x00'
    · simp [h0] at hcr
    · simp only [h0, if_false] at hcr; subst hcr; exact noCR_normNewlines s hc
  · intro hm
    simp only [normalize, normNul, List.mem_map] at hm
    obtain ⟨c, _, hcr⟩ := hm
    by_cases h0 : c = '\x00'
    · simp [h0] at hcr
    · simp [h0] at hcr

theorem normNewlines_map (f : Char → Char) (hr : ∀ c, f c = '\r' ↔ c = '\r') (hn : ∀ c, f c = '\n' ↔ c = '\n') (t : List Char) :
    normNewlines (t.map f) = (normNewlines t).map f := by
  have fr : f '\r' = '\r' := (hr _).2 rfl
  have fn : f '\n' = '\n' := (hn _).2 rfl
  induction t using normNewlines.induct with
  | case1 => rfl
  | case2 rest ih => rw [List.map_cons, List.map_cons, fr, fn, nn_crlf, nn_crlf, ih, List.map_cons, fn]
  | case3 rest hne ih =>
    have hh' : (rest.map f).head? ≠ some '\n' := by
      cases rest with
      | nil => nofun
      | cons d r => exact fun e => hne r (by rw [(hn d).1 (Option.some.inj e)])
    rw [List.map_cons, fr, nn_cr _ (head_ne_lf hne), nn_cr _ hh', ih, List.map_cons, fn]
  | case4 c rest h1 h2 ih =>
    rw [List.map_cons, nn_other _ _ (fun e => h2 ((hr c).1 e)), nn_other _ _ h2, ih, List.map_cons]

/-- a NUL character behaves exactly like U+FFFD -/
theorem nul_like_fffd (s : List Char) :
    normalize (s.map (fun c => if c = '\x00' then '�' else c)) = normalize s := by
  have hf (x : Char) (hx : x ≠ '\x00' ∧ x ≠ '�') (c : Char) : (if c = '\x00' then '�' else c) = x ↔ c = x := by
    by_cases h0 : c = '\x00'
    · rw [if_pos h0, h0]; exact ⟨fun e => absurd e.symm hx.2, fun e => absurd e.symm hx.1⟩
    · rw [if_neg h0]
  rw [normalize, normNewlines_map _ (hf '\r' (by decide)) (hf '\n' (by decide)), normalize, normNul, normNul, List.map_map]
  exact List.map_congr_left fun c _ => by by_cases h0 : c = '\x00' <;> simp [h0]

theorem colAfter_spaces (col n : Nat) : colAfter col (List.replicate n ' ') = col + n := by
  induction n generalizing col with
  | zero => rfl
  | succ k ih =>
    simp only [List.replicate_succ, colAfter, show (' ' = '\t') = False by decide, if_false, ih]
    omega

theorem colAfter_mono (l : List Char) (c : Nat) : c ≤ colAfter c l := by
  induction l generalizing c with
  | nil => exact Nat.le_refl _
  | cons x xs ih =>
    simp only [colAfter]
    by_cases hx : x = '\t'
    · simp only [hx, if_true]; exact Nat.le_trans (by omega) (ih _)
    · simp only [hx, if_false]; exact Nat.le_trans (by omega) (ih _)

/-- **C17.indent_cols** — re-spelling a line's leading blanks column-exactly (tabs replaced by the
spaces that reach the same column) leaves the line's indent in columns unchanged. -/
theorem indent_cols (ws : List Char) (col : Nat) :
    colAfter col (List.replicate (colAfter col ws - col) ' ') = colAfter col ws := by
  rw [colAfter_spaces]
  have := colAfter_mono ws col
  omega

def blanks (s : List Char) : List Char := s.takeWhile (fun c => c = ' ' ∨ c = '\t')

theorem blanks_cons_blank {c : Char} (h : c = ' ' ∨ c = '\t') (s : List Char) : blanks (c :: s) = c :: blanks s :=
  List.takeWhile_cons_of_pos (decide_eq_true h)

theorem blanks_cons_other {c : Char} (h : c ≠ ' ' ∧ c ≠ '\t') (s : List Char) : blanks (c :: s) = [] :=
  List.takeWhile_cons_of_neg (by simp [h.1, h.2])

theorem blanks_append {ws : List Char} (hws : ∀ c ∈ ws, c = ' ' ∨ c = '\t') {c : Char} (hc : c ≠ ' ' ∧ c ≠ '\t') (tail : List Char) :
    blanks (ws ++ c :: tail) = ws :=
  (List.takeWhile_append_of_pos fun c hc => decide_eq_true (hws c hc)).trans (by rw [← blanks, blanks_cons_other hc, List.append_nil])

theorem blanks_self {ws : List Char} (hws : ∀ c ∈ ws, c = ' ' ∨ c = '\t') : blanks ws = ws := by
  have := List.takeWhile_append_of_pos (l₂ := []) fun c hc => decide_eq_true (hws c hc)
  rwa [List.append_nil, List.takeWhile_nil, List.append_nil] at this

/-- the loop of the block-quote rule tracks the absolute column, `offset + bs + adj` on entry -/
theorem quoteLoop_eq (bs adj : Nat) (s : List Char) (offset n : Nat) :
    quoteLoop bs adj offset s n = (colAfter (offset + bs + adj) (blanks s) - (bs + adj), n + (blanks s).length) := by
  induction s generalizing offset n with
  | nil => exact Prod.ext (by show offset = offset + bs + adj - (bs + adj); omega) rfl
  | cons c rest ih =>
    rw [quoteLoop]
    by_cases ht : c = '\t'
    · rw [if_pos ht, ih, blanks_cons_blank (.inr ht), colAfter, if_pos ht, List.length_cons,
        show offset + (4 - (offset + bs + adj) % 4) + bs + adj = offset + bs + adj + (4 - (offset + bs + adj) % 4) by omega,
        Nat.add_assoc n, Nat.add_comm 1]
    · rw [if_neg ht]
      by_cases hs : c = ' '
      · rw [if_pos hs, ih, blanks_cons_blank (.inl hs), colAfter, if_neg ht, List.length_cons,
          show offset + 1 + bs + adj = offset + bs + adj + 1 by omega, Nat.add_assoc n, Nat.add_comm 1]
      · rw [if_neg hs, blanks_cons_other ⟨hs, ht⟩]
        exact Prod.ext (by show offset = offset + bs + adj - (bs + adj); omega) rfl

/-- The marker's records in closed form.  The first blank behind the marker counts as part of it, whichever way it is spelt: a
space; a tab one column wide; a wider tab, whose first column is that blank. -/
theorem quoteOffsets_eq (fixed : Bool) (bs sc : Nat) (after : List Char) :
    quoteOffsets fixed bs sc after =
      if blanks after = [] then ⟨0, (if fixed then bs else 0) + sc + 1, 0⟩
      else ⟨(colAfter (bs + sc + 1) (blanks after) : Int) - (bs + sc + 2 : Nat), (if fixed then bs else 0) + sc + 2,
        (blanks after).length⟩ := by
  cases after with
  | nil => rfl
  | cons c rest =>
    rw [quoteOffsets]
    by_cases hs : c = ' '
    · have hm := colAfter_mono (blanks rest) (bs + sc + 1 + 1)
      rw [if_pos hs, quoteLoop_eq, blanks_cons_blank (.inl hs), if_neg (List.cons_ne_nil _ _), colAfter,
        if_neg (show ¬ c = '\t' by rw [hs]; decide), List.length_cons, show sc + 2 + bs + 0 = bs + sc + 1 + 1 by omega]
      show QuoteOff.mk _ _ _ = _
      congr 1 <;> omega
    · rw [if_neg hs]
      by_cases ht : c = '\t'
      · rw [if_pos ht, blanks_cons_blank (.inr ht), if_neg (List.cons_ne_nil _ _), colAfter, if_pos ht, List.length_cons]
        have hm := colAfter_mono (blanks rest) (bs + sc + 1 + (4 - (bs + sc + 1) % 4))
        by_cases h3 : (bs + (sc + 1)) % 4 = 3
        · rw [if_pos h3, quoteLoop_eq, show sc + 2 + bs + 0 = bs + sc + 1 + (4 - (bs + sc + 1) % 4) by omega]
          show QuoteOff.mk _ _ _ = _
          congr 1 <;> omega
        · rw [if_neg h3, quoteLoop_eq, blanks_cons_blank (.inr ht), colAfter, if_pos ht, List.length_cons,
            show sc + 1 + bs + 1 + (4 - (sc + 1 + bs + 1) % 4) = bs + sc + 1 + (4 - (bs + sc + 1) % 4) by omega]
          show QuoteOff.mk _ _ _ = _
          congr 1 <;> omega
      · rw [if_neg ht, blanks_cons_other ⟨hs, ht⟩, if_pos rfl]

/-- **C17.marker_tab** — after a block-quote marker followed by a non-empty run of blanks `ws`
(any mixture of spaces and tabs), the offsets the rule records depend only on the *absolute column*
that the run reaches, counted from the start of the physical line (`bs` = inherited offset of the
logical line start, `sc` = column of the marker): the new indent is that column minus
`bs + sc + 2`, the new inherited offset is `bs + sc + 2`.  Hence two spellings of the run that end on
the same column — spaces, or tabs where a tab ends on a tab stop — give identical records, at any
nesting depth.  (`quoteOffsets true`: the rule with fix F8.) -/
theorem marker_tab (bs sc : Nat) (ws : List Char) (hne : ws ≠ [])
    (hws : ∀ c ∈ ws, c = ' ' ∨ c = '\t') :
    (quoteOffsets true bs sc ws).sCount = (colAfter (bs + sc + 1) ws : Int) - (bs + sc + 2 : Nat)
    ∧ (quoteOffsets true bs sc ws).bsCount = bs + sc + 2
    ∧ (quoteOffsets true bs sc ws).tShiftEnd = ws.length := by
  rw [quoteOffsets_eq, blanks_self hws, if_neg hne]
  exact ⟨rfl, rfl, rfl⟩

/-- on a real line (blank run `ws`, then a non-blank character and anything else) the rule records
what it records for the blank run alone -/
theorem quoteOffsets_prefix (fixed : Bool) (bs sc : Nat) (ws : List Char) (hne : ws ≠ [])
    (hws : ∀ c ∈ ws, c = ' ' ∨ c = '\t') (c : Char) (hc : c ≠ ' ' ∧ c ≠ '\t') (tail : List Char) :
    quoteOffsets fixed bs sc (ws ++ c :: tail) = quoteOffsets fixed bs sc ws := by
  rw [quoteOffsets_eq, quoteOffsets_eq, blanks_append hws hc, blanks_self hws]

/-- spelling-independence, stated directly -/
theorem marker_tab_spellings (bs sc : Nat) (ws ws' : List Char) (hne : ws ≠ []) (hne' : ws' ≠ [])
    (hws : ∀ c ∈ ws, c = ' ' ∨ c = '\t') (hws' : ∀ c ∈ ws', c = ' ' ∨ c = '\t')
    (hcol : colAfter (bs + sc + 1) ws = colAfter (bs + sc + 1) ws') :
    (quoteOffsets true bs sc ws).sCount = (quoteOffsets true bs sc ws').sCount
    ∧ (quoteOffsets true bs sc ws).bsCount = (quoteOffsets true bs sc ws').bsCount := by
  have a := marker_tab bs sc ws hne hws
  have b := marker_tab bs sc ws' hne' hws'
  exact ⟨by rw [a.1, b.1, hcol], by rw [a.2.1, b.2.1]⟩

/-! the defect repaired by F8 (`fixed = false`: the inherited offset is dropped, so inside an outer quote whose content starts at
column 2 the same tab is measured from the wrong column) -/
example : quoteOffsets true 2 0 ['\t', 'x'] = quoteOffsets true 2 0 [' ', 'x'] := by decide
example : (quoteOffsets false 2 0 ['\t', 'x']).bsCount ≠ (quoteOffsets true 2 0 ['\t', 'x']).bsCount := by decide
example : Mixed ['a', '\n', '\n', 'b', '\n'] ['a', '\r', '\r', '\n', 'b', '\r'] :=
  .keep 'a' (by decide) (.cr (.crlf (.keep 'b' (by decide) (.cr .nil (by simp)))) (by simp))

end MdIt.C17
