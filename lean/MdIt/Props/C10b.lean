import MdIt.Props.C02b
import MdIt.Props.C02c
import MdIt.Props.C02d
/-!
# C10 (continued) — provenance for the modelled block sub-parsers: leaf rules, with block quotes, with quotes and lists

For every source, every subset of the optional rules `code`, `fence`, `hr`, `heading` and every `maxNesting`, every token of the
modelled block parse (`miniParse`, `qParse`, `lParse`) has a type that an *enabled* rule produces, the container rules included, at
any nesting depth.  So with a rule switched off its token kinds do not occur (stated for some of them, `mini_no_hr` … `l_no_fence`),
and the zero configuration yields only paragraph tokens (`mini_zero`).
-/
namespace MdIt.C10
open MdIt.C01 MdIt.C02

def allowedTypes (c : MiniCfg) : List String :=
  ["paragraph_open", "inline", "paragraph_close"] ++ (if c.code then ["code_block"] else []) ++ (if c.fence then ["fence"] else [])
    ++ (if c.hr then ["hr"] else []) ++ (if c.heading then ["heading_open", "heading_close"] else [])

abbrev TypesOf (A : List String) : BState → List Tok → Prop := Toks fun _ t => t.type ∈ A

theorem types_mono {P : BState → Nat → Prop} {A B : List String} {r : BRule} (h : SegOK P (TypesOf A) r) (hAB : ∀ ty ∈ A, ty ∈ B) :
    SegOK P (TypesOf B) r :=
  h.mono fun _ _ h2 t ht => hAB _ (h2 t ht)

@[simp] theorem pushedTok_type (s : BState) (a b : String) (n : Int) (m ch d e f) : (pushedTok s a b n m ch d e f).type = a := rfl

theorem typesOK_hr (P) (c : MiniCfg) (h : c.hr = true) : SegOK P (TypesOf (allowedTypes c)) (ruleHr c.code) :=
  C02.segOK_of_leaf (hr_shape P c.code) fun s _ _ _ _ _ ⟨_, _, _, _, _, _, hseg⟩ t ht => by
    subst hseg; rw [List.mem_singleton] at ht; subst ht; simp [allowedTypes, h]

theorem typesOK_code (P) (c : MiniCfg) (h : c.code = true) : SegOK P (TypesOf (allowedTypes c)) (ruleCode c.code) :=
  C02.segOK_of_leaf (code_shape P c.code) fun s _ _ _ _ _ ⟨_, _, _, hseg⟩ t ht => by
    subst hseg; rw [List.mem_singleton] at ht; subst ht; simp [allowedTypes, h]

theorem typesOK_fence (P) (c : MiniCfg) (h : c.fence = true) : SegOK P (TypesOf (allowedTypes c)) (ruleFence c.code) :=
  C02.segOK_of_leaf (fence_shape P c.code) fun s _ _ _ _ _ ⟨_, _, _, _, hseg, _⟩ t ht => by
    subst hseg; rw [List.mem_singleton] at ht; subst ht; simp [allowedTypes, h]

theorem typesOK_heading (P) (c : MiniCfg) (ws : List Nat) (h : c.heading = true) : SegOK P (TypesOf (allowedTypes c)) (ruleHeading c.code ws) :=
  C02.segOK_of_leaf (heading_shape P c.code ws) fun s _ _ _ _ _ ⟨_, _, _, _, hseg⟩ t ht => by
    subst hseg
    rcases mem_tripleToks_type ht with ht | ht | ht <;> simp [ht, allowedTypes, h]

theorem typesOK_paragraphE (P : BState → Nat → Prop) (c : MiniCfg) (terms : List BRule) (hin : ∀ t ∈ terms, SilentInertE t) (ws : List Nat) :
    SegOK P (TypesOf (allowedTypes c)) (ruleParagraph terms ws) :=
  C02.segOK_of_leaf (paragraph_shapeE P terms hin ws) fun s _ _ _ _ _ ⟨_, hseg⟩ t ht => by
    subst hseg
    rcases mem_tripleToks_type ht with ht | ht | ht <;> simp [ht, allowedTypes]

theorem typesOK_leaves (P : BState → Nat → Prop) (c : MiniCfg) {pt : List BRule} (hpt : ∀ t ∈ pt, SilentInertE t) (ws : List Nat) :
    ∀ r ∈ leaves c pt ws, SegOK P (TypesOf (allowedTypes c)) r :=
  forall_leaves (typesOK_code _ c) (typesOK_fence _ c) (typesOK_hr _ c) (typesOK_heading _ c ws) (typesOK_paragraphE _ c _ hpt ws)

theorem miniChain_typesOK (c : MiniCfg) (ws : List Nat) : ∀ r ∈ miniChain c ws, SegOK TopCtx (TypesOf (allowedTypes c)) r :=
  typesOK_leaves _ c (inertE_of_inert (miniTerminators_inert c ws)) ws

/-- **C10.mini_provenance** — every token kind in the stream is produced by an enabled rule -/
theorem mini_provenance (c : MiniCfg) (ws : List Nat) (maxNesting : Int) (src : List Char) (ts : List Tok)
    (h : miniParse c ws maxNesting src = .ok ts) : ∀ t ∈ ts, t.type ∈ allowedTypes c := by
  obtain ⟨segs, hts, hS⟩ := miniParse_segs (TypesOf (allowedTypes c)) (toks_closed _) c ws maxNesting (miniChain_typesOK c ws) src ts h
  exact toks_flatten hts hS

theorem mini_no_hr (c : MiniCfg) (ws : List Nat) (mn : Int) (src : List Char) (ts : List Tok) (hoff : c.hr = false)
    (h : miniParse c ws mn src = .ok ts) : ∀ t ∈ ts, t.type ≠ "hr" := by
  intro t ht he
  have := mini_provenance c ws mn src ts h t ht
  rw [he] at this
  simp [allowedTypes, hoff] at this

theorem mini_no_code (c : MiniCfg) (ws : List Nat) (mn : Int) (src : List Char) (ts : List Tok) (hoff : c.code = false)
    (h : miniParse c ws mn src = .ok ts) : ∀ t ∈ ts, t.type ≠ "code_block" := by
  intro t ht he
  have := mini_provenance c ws mn src ts h t ht
  rw [he] at this
  simp [allowedTypes, hoff] at this

theorem mini_zero (ws : List Nat) (mn : Int) (src : List Char) (ts : List Tok)
    (h : miniParse ⟨false, false, false, false⟩ ws mn src = .ok ts) :
    ∀ t ∈ ts, t.type = "paragraph_open" ∨ t.type = "inline" ∨ t.type = "paragraph_close" := by
  intro t ht
  have := mini_provenance _ ws mn src ts h t ht
  simpa [allowedTypes] using this

def qAllowed (c : MiniCfg) : List String := allowedTypes c ++ ["blockquote_open", "blockquote_close"]

theorem typesOf_wrap {A : List String} (h : ∀ ty ∈ ["blockquote_open", "blockquote_close"], ty ∈ A) : QuoteWrap (TypesOf A) :=
  quoteWrap_tokens _ (fun _ _ _ _ h => h) fun _ t ht => by
    rcases ht with ht | ht <;> exact ht ▸ h _ (by simp)

theorem qTypes_leaves (c : MiniCfg) (ws : List Nat) (mn : Int) (P : BState → Nat → Prop) :
    ∀ r ∈ qLeaves c ws mn, SegOK P (TypesOf (qAllowed c)) r := fun r h =>
  types_mono (typesOK_leaves P c (inertE_of_inert (qTerminators_inert c ws mn)) ws r h) fun _ => List.mem_append_left _

/-- **C10.q_provenance** — every token kind in the stream of `qParse` is produced by an enabled rule (the block quote rule included) -/
theorem q_provenance (c : MiniCfg) (ws : List Nat) (maxNesting : Int) (src : List Char) (ts : List Tok)
    (h : qParse c ws maxNesting src = .ok ts) : ∀ t ∈ ts, t.type ∈ qAllowed c := by
  obtain ⟨segs, hts, hS⟩ := qParse_segs (TypesOf (qAllowed c)) (typesOf_wrap (by simp [qAllowed])) c ws maxNesting
    (qTypes_leaves c ws maxNesting) src ts h
  exact toks_flatten hts hS

theorem q_no_hr (c : MiniCfg) (ws : List Nat) (mn : Int) (src : List Char) (ts : List Tok) (hoff : c.hr = false)
    (h : qParse c ws mn src = .ok ts) : ∀ t ∈ ts, t.type ≠ "hr" := by
  intro t ht he
  have := q_provenance c ws mn src ts h t ht
  rw [he] at this
  simp [qAllowed, allowedTypes, hoff] at this

def lAllowed (c : MiniCfg) : List String :=
  qAllowed c ++ ["bullet_list_open", "bullet_list_close", "ordered_list_open", "ordered_list_close", "list_item_open", "list_item_close"]

theorem typesOf_listWrap {A : List String} (h : ∀ ty ∈ ["list_item_open", "list_item_close", "bullet_list_open", "bullet_list_close",
    "ordered_list_open", "ordered_list_close"], ty ∈ A) : ListWrap (TypesOf A) :=
  listWrap_tokens _ (fun _ _ _ _ h => h) (fun _ t u he h => by rw [(hidden_eq_fields he).2.2.1]; exact h) fun _ t ht => h _ ht

theorem lAllowed_containers (c : MiniCfg) : (∀ ty ∈ ["blockquote_open", "blockquote_close"], ty ∈ lAllowed c) ∧
    ∀ ty ∈ ["list_item_open", "list_item_close", "bullet_list_open", "bullet_list_close", "ordered_list_open", "ordered_list_close"],
      ty ∈ lAllowed c := by
  simp [lAllowed, qAllowed]

theorem lTypes_leaves (c : MiniCfg) (ws : List Nat) (mn : Int) (P : BState → Nat → Prop) :
    ∀ r ∈ lLeaves c ws mn, SegOK P (TypesOf (lAllowed c)) r := fun r h =>
  types_mono (typesOK_leaves P c (inertE_of_inert (lTerminators_inert c ws mn)) ws r h)
    fun _ h => List.mem_append_left _ (List.mem_append_left _ h)

/-- **C10.l_provenance** — every token kind in the stream of `lParse` is produced by an enabled rule (the two container rules
included), at any nesting depth -/
theorem l_provenance (c : MiniCfg) (ws : List Nat) (maxNesting : Int) (src : List Char) (ts : List Tok)
    (h : lParse c ws maxNesting src = .ok ts) : ∀ t ∈ ts, t.type ∈ lAllowed c := by
  obtain ⟨segs, hts, hS⟩ := lParse_segs (TypesOf (lAllowed c)) (typesOf_wrap (lAllowed_containers c).1)
    (typesOf_listWrap (lAllowed_containers c).2) c ws maxNesting (lTypes_leaves c ws maxNesting) src ts h
  exact toks_flatten hts hS

theorem l_no_hr (c : MiniCfg) (ws : List Nat) (mn : Int) (src : List Char) (ts : List Tok) (hoff : c.hr = false)
    (h : lParse c ws mn src = .ok ts) : ∀ t ∈ ts, t.type ≠ "hr" := by
  intro t ht he
  have := l_provenance c ws mn src ts h t ht
  rw [he] at this
  simp [lAllowed, qAllowed, allowedTypes, hoff] at this

theorem l_no_fence (c : MiniCfg) (ws : List Nat) (mn : Int) (src : List Char) (ts : List Tok) (hoff : c.fence = false)
    (h : lParse c ws mn src = .ok ts) : ∀ t ∈ ts, t.type ≠ "fence" := by
  intro t ht he
  have := l_provenance c ws mn src ts h t ht
  rw [he] at this
  simp [lAllowed, qAllowed, allowedTypes, hoff] at this

end MdIt.C10
