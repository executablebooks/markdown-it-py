import MdIt.Props.C08
import MdIt.Props.C02b
/-!
# C08 (continued) — the verbatim tokens of the modelled sub-parser are the `getLines` cuts of the source lines their maps point to

`getLines` is the concatenation of per-line cuts (`cutOf`); by `C08.cutLine_spec` each cut is the line's characters with only
leading blanks removed and at most three pad spaces after a partially consumed tab.  `VerbTok`: a token's content is those cuts, its
recorded markup what the marker scan read.  `VerbX` adds what the other leaf rules record (`html_block` content, heading markup).
-/
namespace MdIt.C08
open MdIt.C01 MdIt.C02

theorem getLinesB_spec (s : BState) (b e : Nat) (indent : Int) (keep : Bool) (h : e ≤ s.lines.length) :
    getLinesB s b e indent keep = .ok ((List.range' b (e - b)).map (cutOf s e keep indent)).flatten :=
  getLinesB_eq s b e indent keep h

theorem cutOf_spec (s : BState) (end_ : Nat) (keep : Bool) (indent : Int) (hi : 0 ≤ indent) (i : Nat) (l : BLine)
    (hl : s.lines[i]? = some l) :
    ∃ removed rest pad, lineChars s end_ keep i = removed ++ rest ∧ cutOf s end_ keep indent i = pad ++ rest
      ∧ (∀ k (h : k < removed.length), isBlankCh removed[k] ∨ k < l.tShift)
      ∧ (∃ n, pad = List.replicate n ' ' ∧ n ≤ 3 ∧ (0 < n → removed.getLast? = some '\t')) := by
  have : cutOf s end_ keep indent i = cutLine (lineChars s end_ keep i) l.tShift l.bs indent.toNat := by
    simp only [cutOf, hl, cutLineI]
    have : ¬ indent < 0 := by omega
    simp [this]
  rw [this]
  exact cutLine_spec _ _ _ _

def VerbTok (s : BState) (t : Tok) : Prop :=
  (t.type = "code_block" → ∃ a b, t.map = some (a, b) ∧
      t.content.toList = ((List.range' a (b - a)).map (cutOf s b false (4 + s.blkIndent))).flatten ++ ['\n'])
  ∧ (t.type = "fence" → ∃ a b e l, t.map = some (a, b) ∧ (b = e ∨ b = e + 1) ∧ s.lines[a]? = some l ∧
      t.content.toList = ((List.range' (a + 1) (e - (a + 1))).map (cutOf s e true l.sCount)).flatten ∧
      t.markup.toList ++ t.info.toList = l.body ∧ (∃ m n, t.markup.toList = List.replicate n m ∧ 3 ≤ n))
  ∧ (t.type = "hr" → ∃ a l, t.map = some (a, a + 1) ∧ s.lines[a]? = some l ∧ hrMarkup l.body = some t.markup.toList)

/-- a heading's markup is a run of `#` (ATX) or the underline character (setext) -/
def HeadMk (t : Tok) : Prop :=
  t.type = "heading_open" → (∃ n, t.markup.toList = List.replicate n '#') ∨ t.markup = "=" ∨ t.markup = "-"

/-- an `html_block` holds the `getLines` cuts of the lines of its map at the block indent, each with its line feed -/
def HtmlTok (s : BState) (t : Tok) : Prop :=
  t.type = "html_block" → ∃ a b, t.map = some (a, b) ∧
    t.content.toList = ((List.range' a (b - a)).map (cutOf s b true s.blkIndent)).flatten

/-- everything the leaf rules say of a token they push, relative to the state they ran in; `verbX_to_m` (`C08c`) keeps of it what can
    be said from the line table alone, which is what passes through containers -/
def VerbX (s : BState) (t : Tok) : Prop := VerbTok s t ∧ HtmlTok s t ∧ HeadMk t

def VerbSeg : BState → List Tok → Prop := fun s seg => ∀ t ∈ seg, VerbX s t

theorem verbSeg_closed : FrameClosedS VerbSeg := fun s s' _ hf h t ht => by
  have := h t ht
  unfold VerbX VerbTok HtmlTok cutOf lineChars at *
  rw [hf.1.1, hf.2.2.1]; exact this

private theorem takeWhile_replicate (m : Char) (l : List Char) :
    l.takeWhile (· == m) = List.replicate (l.takeWhile (· == m)).length m := by
  induction l with
  | nil => rfl
  | cons c cs ih =>
    simp only [List.takeWhile]
    split
    · rename_i h
      have : c = m := by simpa using h
      subst this
      simp only [List.length_cons, List.replicate_succ]
      rw [← ih]
    · rfl

private theorem takeWhile_append_drop_len (p : Char → Bool) (l : List Char) :
    l.takeWhile p ++ l.drop (l.takeWhile p).length = l := by
  induction l with
  | nil => rfl
  | cons c cs ih =>
    simp only [List.takeWhile]
    split
    · simp [ih]
    · simp

/-- the types `VerbX` (and `VerbM`) say something about -/
def verbTypes : List String := ["code_block", "fence", "hr", "html_block", "heading_open"]

theorem verbX_other (s : BState) (t : Tok) (h : t.type ∉ verbTypes) : VerbX s t := by
  refine ⟨⟨?_, ?_, ?_⟩, ?_, ?_⟩ <;> (intro e; rw [e] at h; exact absurd h (by decide))

theorem verbOK_hr (P) (codeOn : Bool) : SegOK P VerbSeg (ruleHr codeOn) :=
  C02.segOK_of_leaf (hr_shape P codeOn) fun s line _ n seg _ ⟨_, l, mk, hl, hmk, hn, hseg⟩ t ht => by
    subst hn hseg
    rw [List.mem_singleton] at ht; subst ht
    exact ⟨⟨fun h => by simp [pushedTok, Tok.type] at h, fun h => by simp [pushedTok, Tok.type] at h,
      fun _ => ⟨line, l, rfl, hl, by simp [pushedTok, Tok.markup, hmk]⟩⟩, fun h => by simp [pushedTok, Tok.type] at h,
      fun h => by simp [pushedTok, Tok.type] at h⟩

theorem verbOK_code (P) (codeOn : Bool) : SegOK P VerbSeg (ruleCode codeOn) :=
  C02.segOK_of_leaf (code_shape P codeOn) fun s line _ n seg hn ⟨_, c, hcx, hseg⟩ t ht => by
    rw [getLinesB_spec s line n (4 + s.blkIndent) false (Nat.le_of_lt hn)] at hcx
    cases hcx
    subst hseg
    rw [List.mem_singleton] at ht; subst ht
    exact ⟨⟨fun _ => ⟨line, n, rfl, by simp [pushedTok, Tok.content]⟩, fun h => by simp [pushedTok, Tok.type] at h,
      fun h => by simp [pushedTok, Tok.type] at h⟩, fun h => by simp [pushedTok, Tok.type] at h, fun h => by simp [pushedTok, Tok.type] at h⟩

theorem verbOK_fence (P) (codeOn : Bool) : SegOK P VerbSeg (ruleFence codeOn) :=
  C02.segOK_of_leaf (fence_shape P codeOn) fun s line _ n seg hn hD t ht => by
    obtain ⟨_, _, _, _, rfl, l, marker, len, params, e, c, hl, ho, he, hcx, rfl, rfl, rfl⟩ := hD
    obtain ⟨_, _, hlen, hlen3, hpar⟩ := fenceOpen_some ho
    rw [getLinesB_spec s (line + 1) e l.sCount true (by omega)] at hcx
    cases hcx
    rw [List.mem_singleton] at ht; subst ht
    refine ⟨⟨fun h => by simp [pushedTok, Tok.type] at h, fun _ => ⟨line, n, e, l, rfl, he, hl, by simp [pushedTok, Tok.content], ?_,
      marker, len, by simp [pushedTok, Tok.markup], hlen3⟩, fun h => by simp [pushedTok, Tok.type] at h⟩,
      fun h => by simp [pushedTok, Tok.type] at h, fun h => by simp [pushedTok, Tok.type] at h⟩
    simp only [pushedTok, Tok.markup, Tok.info, String.toList_ofList]
    rw [hpar, hlen, ← takeWhile_replicate]
    exact takeWhile_append_drop_len _ _

/-- the triple of `heading` / `lheading` / `paragraph`: only a heading's opening token is spoken of -/
theorem verbSeg_triple (s : BState) {tyOpen tyClose tag mk : String} {m1 m2 : Nat × Nat} {content : String}
    (ho : tyOpen ∉ ["code_block", "fence", "hr", "html_block"]) (hc : tyClose ∉ verbTypes)
    (hmk : tyOpen = "heading_open" → (∃ n, mk.toList = List.replicate n '#') ∨ mk = "=" ∨ mk = "-") :
    VerbSeg s (tripleToks s tyOpen tyClose tag mk m1 m2 content) := by
  intro t ht
  simp only [tripleToks, List.mem_cons, List.not_mem_nil, or_false] at ht
  rcases ht with rfl | rfl | rfl
  · refine ⟨⟨?_, ?_, ?_⟩, ?_, hmk⟩ <;> (intro e; exact absurd ho (by rw [show tyOpen = _ from e]; decide))
  · exact verbX_other _ _ (by simp [pushedTok, Tok.type, verbTypes])
  · exact verbX_other _ _ hc

theorem verbOK_heading (P) (codeOn : Bool) (ws : List Nat) : SegOK P VerbSeg (ruleHeading codeOn ws) :=
  C02.segOK_of_leaf (heading_shape P codeOn ws) fun s _ _ _ _ _ ⟨_, _, k, _, hseg⟩ =>
    hseg ▸ verbSeg_triple s (by decide) (by decide) fun _ => .inl ⟨k, String.toList_ofList⟩

theorem verbOK_paragraphE (P : BState → Nat → Prop) (terms : List BRule) (hin : ∀ t ∈ terms, SilentInertE t) (ws : List Nat) :
    SegOK P VerbSeg (ruleParagraph terms ws) :=
  C02.segOK_of_leaf (paragraph_shapeE P terms hin ws) fun s _ _ _ _ _ ⟨_, hseg⟩ =>
    hseg ▸ verbSeg_triple s (by decide) (by decide) fun h => absurd h (by decide)

theorem verbOK_leaves (P : BState → Nat → Prop) (c : MiniCfg) {pt : List BRule} (hpt : ∀ t ∈ pt, SilentInertE t) (ws : List Nat) :
    ∀ r ∈ leaves c pt ws, SegOK P VerbSeg r :=
  forall_leaves (fun _ => verbOK_code _ _) (fun _ => verbOK_fence _ _) (fun _ => verbOK_hr _ _) (fun _ => verbOK_heading _ _ _)
    (verbOK_paragraphE _ _ hpt ws)

theorem miniChain_verbOK (c : MiniCfg) (ws : List Nat) : ∀ r ∈ miniChain c ws, SegOK TopCtx VerbSeg r :=
  verbOK_leaves _ c (inertE_of_inert (miniTerminators_inert c ws)) ws

/-- **C08.mini_verbatim** — every code block, fence and thematic break of the modelled parse holds exactly the
`getLines` cuts / marker scan of the source lines its map points to (line tables of the normalised source, block
indent 0) -/
theorem mini_verbatim (c : MiniCfg) (ws : List Nat) (maxNesting : Int) (src : List Char) (ts : List Tok)
    (h : miniParse c ws maxNesting src = .ok ts) : ∀ t ∈ ts, VerbTok (initBState (normalize src)) t := by
  obtain ⟨segs, hts, hS⟩ := miniParse_segs VerbSeg verbSeg_closed c ws maxNesting (miniChain_verbOK c ws) src ts h
  intro t ht
  rw [hts, List.mem_flatten] at ht
  obtain ⟨g, hg, htg⟩ := ht
  exact (hS g hg t htg).1

end MdIt.C08
