import MdIt.Pipeline
import MdIt.Proofs.BlockRules
/-!
# C10 (continued) — the model with the `table` rule switched off *is* the ten-rule model

`tChain_off`: with `table = false` the eleven-rule chain is, rule for rule and at every depth budget, the chain `rChain` of
`MdIt/BlockRef.lean` (the table rule is absent from the main chain and from the terminator chains of `paragraph`, `reference`,
`lheading`); hence the parse is the ten-rule parse.  Every theorem about `rParse` / `fullParseR` is therefore a theorem about the
full model with the switch off — the switch has exactly its documented effect on the model, nothing else depends on it.
-/
namespace MdIt.C10

theorem tParaTerms_off (c : TCfg) (h : c.table = false) (ws : List Nat) (mn : Int) : tParaTerms c ws mn = mTerminators c.toMCfg ws mn := by
  simp [tParaTerms, h]

theorem tChain_off (ext : IExt) (lx : LExt) (c : TCfg) (h : c.table = false) (ws : List Nat) (mn : Int) :
    ∀ d : Nat, tChain ext lx c ws mn d = rChain ext lx c.toRCfg ws mn d := by
  intro d
  induction d with
  | zero => rfl
  | succ d ih =>
    simp only [tChain, rChain, h, Bool.false_eq_true, if_false, List.nil_append, tParaTerms_off c h, ih]

theorem tParse_off (ext : IExt) (lx : LExt) (c : TCfg) (h : c.table = false) (ws : List Nat) (mn : Int) (src : List Char) :
    tParse ext lx c ws mn src = rParse ext lx c.toRCfg ws mn src := by
  unfold tParse rParse
  rw [tChain_off ext lx c h]

/-- **C10.fullParseT_off** — `MarkdownIt.parse` on the model with all eleven block rules, the table rule switched off, is the ten-rule
    pipeline: same tokens, same children, same recorded env entries -/
theorem fullParseT_off (cls : QCls) (ext : IExt) (lx : LExt) (tc : TCfg) (h : tc.table = false) (ic : ICfg) (ws : List Nat) (mn : Int) (d : Nat)
    (src : List Char) : fullParseT cls ext lx tc ic ws mn d src = fullParseR cls ext lx tc.toRCfg ic ws mn d src := by
  unfold fullParseT fullParseR
  rw [tParse_off ext lx tc h]

theorem rChain_off (ext : IExt) (lx : LExt) (c : RCfg) (h : c.reference = false) (ws : List Nat) (mn : Int) :
    ∀ d : Nat, rChain ext lx c ws mn d = mChain c.toMCfg ws mn d := by
  intro d
  induction d with
  | zero => rfl
  | succ d ih => simp only [rChain, mChain, h, Bool.false_eq_true, if_false, List.append_nil, ih]

theorem mTerminators_off (c : MCfg) (h1 : c.htmlBlock = false) (ws : List Nat) (mn : Int) :
    mTerminators c ws mn = lTerminators c.toMiniCfg ws mn := by
  simp [mTerminators, lTerminators, h1]

theorem mChain_off (c : MCfg) (h1 : c.htmlBlock = false) (h2 : c.lheading = false) (ws : List Nat) (mn : Int) :
    ∀ d : Nat, mChain c ws mn d = lChain c.toMiniCfg ws mn d := by
  intro d
  induction d with
  | zero => rfl
  | succ d ih =>
    simp only [mChain, lChain, h1, h2, Bool.false_eq_true, if_false, List.append_nil, mTerminators_off c h1, mListTerms, ih]

def tokensOf (r : Except PyErr BState) : Except PyErr (List Tok) :=
  match r with
  | .ok s => .ok s.tokens
  | .error e => .error e

/-- **C10.tParse_restricts** — the block parse of the full model with `table`, `reference`, `html_block` and `lheading` switched off is
    the parse of the seven-rule sub-parser `lParse`: the container laws (`C06.l_quote_law`, `C06e.list_law`), the concatenation law
    (`C07.l_concat_law`) and every other theorem stated for a sub-parser are theorems about the one model with the corresponding
    switches off -/
theorem tParse_restricts (ext : IExt) (lx : LExt) (c : TCfg) (h0 : c.table = false) (h1 : c.reference = false) (h2 : c.htmlBlock = false)
    (h3 : c.lheading = false) (ws : List Nat) (mn : Int) (src : List Char) :
    tokensOf (tParse ext lx c ws mn src) = lParse c.toMiniCfg ws mn src := by
  rw [tParse_off ext lx c h0]
  show tokensOf (blockParse (rChain ext lx c.toRCfg ws mn _) mn src) = parseWith _ mn src
  rw [rChain_off ext lx c.toRCfg h1, mChain_off c.toMCfg h2 h3, parseWith_eq]
  cases blockParse _ mn src <;> rfl

end MdIt.C10
