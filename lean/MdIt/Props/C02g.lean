import MdIt.Props.C02f
/-!
# C02 (continued) — opening and closing tokens of the inline stream pair up by tag, in stack order

`tagNest` runs the stack discipline an HTML consumer applies: an opening token pushes its tag, a closing token must find its own tag on
top.  `nest_of_desc`: a token list described by a laminar family of bracket pairs (`Desc`) passes it.  The description of the emphasis
stream comes from `C02e.pairs_laminar` / `pairs_facts` through the post-processing loop; `fragments_join` drops only tokens the stack
discipline ignores.
-/
namespace MdIt.C02g
open MdIt MdIt.C02 MdIt.C02f

def tagNest : List String → List Tok → Option (List String)
  | st, [] => some st
  | st, t :: r =>
    if t.nesting = 1 then tagNest (t.tag :: st) r
    else if t.nesting = -1 then
      (match st with
       | top :: st' => if top = t.tag then tagNest st' r else none
       | [] => none)
    else tagNest st r

/-- a bracket pair: position of the opening token, of the closing token, the tag -/
abbrev Brk := Nat × Nat × String

/-- the pairs `P` describe `ts`: the tokens that open or close are exactly the endpoints of the pairs (`opn`, `cls`, `rest`), a pair's two
tokens carry its tag, no position serves twice (`dist`) and no two pairs cross (`lam`) -/
structure Desc (ts : List Tok) (P : List Brk) : Prop where
  opn : ∀ b ∈ P, ∃ t, ts[b.1]? = some t ∧ t.nesting = 1 ∧ t.tag = b.2.2
  cls : ∀ b ∈ P, ∃ t, ts[b.2.1]? = some t ∧ t.nesting = -1 ∧ t.tag = b.2.2
  rest : ∀ (p : Nat) (t : Tok), ts[p]? = some t → (∀ b ∈ P, b.1 ≠ p ∧ b.2.1 ≠ p) → t.nesting = 0
  ord : ∀ b ∈ P, b.1 < b.2.1
  dist : ∀ b1 ∈ P, ∀ b2 ∈ P, b1 ≠ b2 → b1.1 ≠ b2.1 ∧ b1.1 ≠ b2.2.1 ∧ b1.2.1 ≠ b2.1 ∧ b1.2.1 ≠ b2.2.1
  lam : ∀ b1 ∈ P, ∀ b2 ∈ P, ¬ (b1.1 < b2.1 ∧ b2.1 < b1.2.1 ∧ b1.2.1 < b2.2.1)

/-- the pairs open just before position `p`, innermost first -/
structure OpenAt (P : List Brk) (p : Nat) (L : List Brk) : Prop where
  mem : ∀ b, b ∈ L ↔ b ∈ P ∧ b.1 < p ∧ p ≤ b.2.1
  sorted : L.Pairwise (fun x y => y.1 < x.1)

theorem nest_go (ts : List Tok) (P : List Brk) (hD : Desc ts P) : ∀ (k p : Nat) (L : List Brk), ts.length - p ≤ k → p ≤ ts.length →
    OpenAt P p L → tagNest (L.map (·.2.2)) (ts.drop p) = some [] := by
  intro k
  induction k with
  | zero =>
    intro p L hk hp hL
    have hpe : p = ts.length := by omega
    cases L with
    | nil => rw [hpe, List.drop_length]; rfl
    | cons b rest =>
      have hb := (hL.mem b).1 (by simp)
      obtain ⟨t, ht, _⟩ := hD.cls b hb.1
      have := getElem?_lt ht
      omega
  | succ n ih =>
    intro p L hk hp hL
    by_cases hpe : p = ts.length
    · exact ih p L (by omega) hp hL
    have hlt : p < ts.length := by omega
    rw [List.drop_eq_getElem_cons hlt]
    have hget : ts[p]? = some ts[p] := List.getElem?_eq_getElem hlt
    have shift : ∀ b' : Brk, b'.1 ≠ p ∧ b'.2.1 ≠ p → ((b'.1 < p ∧ p ≤ b'.2.1) ↔ (b'.1 < p + 1 ∧ p + 1 ≤ b'.2.1)) := fun _ _ => by omega
    by_cases hop : ∃ b ∈ P, b.1 = p
    · -- an opening token: its pair becomes the innermost open one
      obtain ⟨b, hbP, hb1⟩ := hop
      obtain ⟨t, ht, hn, htag⟩ := hD.opn b hbP
      rw [hb1, hget] at ht; cases ht
      have hord := hD.ord b hbP
      have other : ∀ b' ∈ P, b' ≠ b → b'.1 ≠ p ∧ b'.2.1 ≠ p := fun b' h1 hne => by have := hD.dist b' h1 b hbP hne; omega
      have := ih (p + 1) (b :: L) (by omega) (by omega)
        ⟨?_, List.pairwise_cons.2 ⟨fun b' hb' => by have := (hL.mem b').1 hb'; omega, hL.sorted⟩⟩
      · simpa [tagNest, hn, htag] using this
      · intro b'
        rw [List.mem_cons, hL.mem]
        by_cases he : b' = b
        · subst he; exact ⟨fun _ => ⟨hbP, by omega, by omega⟩, fun _ => .inl rfl⟩
        · exact ⟨fun h => h.elim (absurd · he) fun h => ⟨h.1, (shift b' (other b' h.1 he)).1 h.2⟩,
            fun h => .inr ⟨h.1, (shift b' (other b' h.1 he)).2 h.2⟩⟩
    by_cases hcl : ∃ b ∈ P, b.2.1 = p
    · -- a closing token: its pair is the innermost open one
      obtain ⟨b, hbP, hb2⟩ := hcl
      obtain ⟨t, ht, hn, htag⟩ := hD.cls b hbP
      rw [hb2, hget] at ht; cases ht
      have hord := hD.ord b hbP
      have other : ∀ b' ∈ P, b' ≠ b → b'.1 ≠ p ∧ b'.2.1 ≠ p := fun b' h1 hne => by have := hD.dist b' h1 b hbP hne; omega
      have hbL : b ∈ L := (hL.mem b).2 ⟨hbP, by omega, by omega⟩
      cases L with
      | nil => cases hbL
      | cons h0 L0 =>
        have hs := List.pairwise_cons.1 hL.sorted
        have hh0 := (hL.mem h0).1 (by simp)
        obtain rfl : h0 = b := by
          by_cases hne : h0 = b
          · exact hne
          · -- otherwise `h0` opens inside `b` and closes after it
            have h1 : b.1 < h0.1 := hs.1 b ((List.mem_cons.1 hbL).resolve_left (Ne.symm hne))
            have := other h0 hh0.1 hne
            exact absurd ⟨h1, by omega, by omega⟩ (hD.lam b hbP h0 hh0.1)
        simp only [tagNest, hn, if_true, List.map_cons, htag]
        refine ih (p + 1) L0 (by omega) (by omega) ⟨?_, hs.2⟩
        intro b'
        by_cases he : b' = h0
        · subst he; exact ⟨fun h => by have := hs.1 b' h; omega, fun h => by omega⟩
        · have hm := hL.mem b'
          rw [List.mem_cons] at hm
          exact ⟨fun h => have h' := hm.1 (.inr h); ⟨h'.1, (shift b' (other b' h'.1 he)).1 h'.2⟩,
            fun h => (hm.2 ⟨h.1, (shift b' (other b' h.1 he)).2 h.2⟩).resolve_left he⟩
    · -- any other token
      have hn : ts[p].nesting = 0 := hD.rest p ts[p] hget (fun b hb => ⟨fun e => hop ⟨b, hb, e⟩, fun e => hcl ⟨b, hb, e⟩⟩)
      have h1 : ¬ (ts[p].nesting = 1) := by omega
      have h2 : ¬ (ts[p].nesting = -1) := by omega
      simp only [tagNest, h1, h2, if_false]
      refine ih (p + 1) L (by omega) (by omega) ⟨?_, hL.sorted⟩
      intro b'
      rw [hL.mem]
      exact ⟨fun h => ⟨h.1, (shift b' ⟨fun e => hop ⟨b', h.1, e⟩, fun e => hcl ⟨b', h.1, e⟩⟩).1 h.2⟩,
        fun h => ⟨h.1, (shift b' ⟨fun e => hop ⟨b', h.1, e⟩, fun e => hcl ⟨b', h.1, e⟩⟩).2 h.2⟩⟩

theorem nest_of_desc (ts : List Tok) (P : List Brk) (hD : Desc ts P) : tagNest [] ts = some [] := by
  have := nest_go ts P hD ts.length 0 [] (by omega) (by omega) ⟨fun b => by simp, List.Pairwise.nil⟩
  simpa using this

/-- the part of a description that reads the tokens: the first three fields of `Desc` -/
structure Marks (ts : List Tok) (P : List Brk) : Prop where
  opn : ∀ b ∈ P, ∃ t, ts[b.1]? = some t ∧ t.nesting = 1 ∧ t.tag = b.2.2
  cls : ∀ b ∈ P, ∃ t, ts[b.2.1]? = some t ∧ t.nesting = -1 ∧ t.tag = b.2.2
  rest : ∀ (p : Nat) (t : Tok), ts[p]? = some t → (∀ b ∈ P, b.1 ≠ p ∧ b.2.1 ≠ p) → t.nesting = 0

theorem Marks.same {ts P} (h : Marks ts P) (p : Nat) (f : Tok → Tok) (hfn : ∀ t, (f t).nesting = t.nesting) (hft : ∀ t, (f t).tag = t.tag) :
    Marks (ts.modify p f) P := by
  have key : ∀ (q : Nat) (t0 : Tok), ts[q]? = some t0 → ∃ t : Tok, (ts.modify p f)[q]? = some t ∧ t.nesting = t0.nesting ∧ t.tag = t0.tag := by
    intro q t0 hq
    by_cases hpq : p = q
    · subst hpq; rw [List.getElem?_modify_eq, hq]; exact ⟨f t0, rfl, hfn t0, hft t0⟩
    · rw [List.getElem?_modify_ne _ _ hpq]; exact ⟨t0, hq, rfl, rfl⟩
  refine ⟨?_, ?_, ?_⟩
  · intro b hb
    obtain ⟨t0, a1, a2, a3⟩ := h.opn b hb
    obtain ⟨t, b1, b2, b3⟩ := key _ t0 a1
    exact ⟨t, b1, b2.trans a2, b3.trans a3⟩
  · intro b hb
    obtain ⟨t0, a1, a2, a3⟩ := h.cls b hb
    obtain ⟨t, b1, b2, b3⟩ := key _ t0 a1
    exact ⟨t, b1, b2.trans a2, b3.trans a3⟩
  · intro q t hq hne
    cases hts : ts[q]? with
    | none => rw [List.getElem?_modify, hts] at hq; cases hq
    | some t0 =>
      obtain ⟨t', b1, b2, _⟩ := key q t0 hts
      rw [b1] at hq; cases hq
      rw [b2]; exact h.rest q t0 hts hne

theorem Marks.cons {ts P} (h : Marks ts P) (a b : Nat) (X : String) (f g : Tok → Tok) (ta tb : Tok) (hab : a ≠ b)
    (hta : ts[a]? = some ta) (htb : ts[b]? = some tb)
    (hP : ∀ b0 ∈ P, b0.1 ≠ a ∧ b0.1 ≠ b ∧ b0.2.1 ≠ a ∧ b0.2.1 ≠ b)
    (hf1 : ∀ t, (f t).nesting = 1) (hf2 : ∀ t, (f t).tag = X) (hg1 : ∀ t, (g t).nesting = -1) (hg2 : ∀ t, (g t).tag = X) :
    Marks ((ts.modify a f).modify b g) ((a, b, X) :: P) := by
  have rd : ∀ q, q ≠ a → q ≠ b → ((ts.modify a f).modify b g)[q]? = ts[q]? := fun q h1 h2 => by
    rw [List.getElem?_modify_ne _ _ (Ne.symm h2), List.getElem?_modify_ne _ _ (Ne.symm h1)]
  refine ⟨?_, ?_, ?_⟩
  · intro b0 hb
    rcases List.mem_cons.1 hb with rfl | hb
    · refine ⟨f ta, ?_, hf1 ta, hf2 ta⟩
      rw [List.getElem?_modify_ne _ _ (Ne.symm hab), List.getElem?_modify_eq, hta]; rfl
    · obtain ⟨o1, o2, _, _⟩ := hP b0 hb
      rw [rd _ o1 o2]; exact h.opn b0 hb
  · intro b0 hb
    rcases List.mem_cons.1 hb with rfl | hb
    · refine ⟨g tb, ?_, hg1 tb, hg2 tb⟩
      rw [List.getElem?_modify_eq, List.getElem?_modify_ne _ _ hab, htb]; rfl
    · obtain ⟨_, _, o3, o4⟩ := hP b0 hb
      rw [rd _ o3 o4]; exact h.cls b0 hb
  · intro q t hq hne
    have h12 := hne (a, b, X) List.mem_cons_self
    rw [rd q (Ne.symm h12.1) (Ne.symm h12.2)] at hq
    exact h.rest q t hq (fun b0 hb0 => hne b0 (List.mem_cons_of_mem _ hb0))

/-- where the brackets described so far come from: delimiter pairs with an opener after `i` -/
def FromPairs (D : List Delim) (i : Int) (P : List Brk) : Prop :=
  ∀ b ∈ P, ∃ (o : Nat) (d de : Delim), i < (o : Int) ∧ D[o]? = some d ∧ 0 ≤ d.end_ ∧ D[d.end_.toNat]? = some de
    ∧ (b.1 : Int) = d.token ∧ (b.2.1 : Int) = de.token

theorem FromPairs.down {D i P} (h : FromPairs D i P) (i' : Int) (hi : i' ≤ i) : FromPairs D i' P := by
  intro b hb
  obtain ⟨o, d, de, a1, a2, a3, a4, a5, a6⟩ := h b hb
  exact ⟨o, d, de, by omega, a2, a3, a4, a5, a6⟩

theorem natCast_ne {a b : Nat} {x y : Int} (ea : (a : Int) = x) (eb : (b : Int) = y) (h : x ≠ y) : a ≠ b := by omega

theorem natCast_ne_toNat {a : Nat} {x y : Int} (e : (a : Int) = x) (hy : 0 ≤ y) (h : x ≠ y) : a ≠ y.toNat := by omega

theorem FromPairs.apart {D n i P} (hD : PostHyp D n) (h : FromPairs D i P) (hi0 : 0 ≤ i) {sd ed : Delim} (hsd : D[i.toNat]? = some sd)
    (he : 0 ≤ sd.end_) (hed : D[sd.end_.toNat]? = some ed) :
    ∀ b0 ∈ P, b0.1 ≠ sd.token.toNat ∧ b0.1 ≠ ed.token.toNat ∧ b0.2.1 ≠ sd.token.toNat ∧ b0.2.1 ≠ ed.token.toNat := by
  intro b0 hb0
  obtain ⟨o, d, de, ho, hd, hde0, hde, e1, e2⟩ := h b0 hb0
  obtain ⟨n1, n2, n3, n4⟩ := hD.pairs_apart hd hsd hde0 he hde hed (by omega)
  have hs := (hD.tokBound i.toNat sd hsd).1
  have hd' := (hD.tokBound sd.end_.toNat ed hed).1
  exact ⟨natCast_ne_toNat e1 hs n1, natCast_ne_toNat e1 hd' n2, natCast_ne_toNat e2 hs n3, natCast_ne_toNat e2 hd' n4⟩

theorem desc_of_pairs {D n i ts P} (hD : PostHyp D n) (hlam : C02e.Laminar D) (hsrc : FromPairs D i P) (hm : Marks ts P) : Desc ts P := by
  refine ⟨hm.opn, hm.cls, hm.rest, ?_, ?_, ?_⟩
  · intro b hb
    obtain ⟨o, d, de, _, hd, he, hde, e1, e2⟩ := hsrc b hb
    have h1 : o < d.end_.toNat := by rcases hD.ends o d hd with h | h <;> omega
    have := hD.tokInc o d.end_.toNat d de hd hde h1
    omega
  · intro b1 hb1 b2 hb2 hne
    obtain ⟨o1, d1, de1, _, hd1, he1, hde1, e11, e12⟩ := hsrc b1 hb1
    obtain ⟨o2, d2, de2, _, hd2, he2, hde2, e21, e22⟩ := hsrc b2 hb2
    have ho : o1 ≠ o2 := by
      -- the same delimiter pair gives the same two tokens, and the opening token has one tag
      rintro rfl
      rw [hd1] at hd2; cases hd2
      rw [hde1] at hde2; cases hde2
      obtain ⟨t1, a1, _, a3⟩ := hm.opn b1 hb1
      obtain ⟨t2, c1, _, c3⟩ := hm.opn b2 hb2
      have e : b1.1 = b2.1 := by omega
      rw [e, c1] at a1; cases a1
      exact hne (Prod.ext e (Prod.ext (by omega) (a3.symm.trans c3)))
    obtain ⟨n1, n2, n3, n4⟩ := hD.pairs_apart hd1 hd2 he1 he2 hde1 hde2 ho
    exact ⟨natCast_ne e11 e21 n1, natCast_ne e11 e22 n2, natCast_ne e12 e21 n3, natCast_ne e12 e22 n4⟩
  · intro b1 hb1 b2 hb2 hx
    obtain ⟨o1, d1, de1, _, hd1, he1, hde1, e11, e12⟩ := hsrc b1 hb1
    obtain ⟨o2, d2, de2, _, hd2, he2, hde2, e21, e22⟩ := hsrc b2 hb2
    have l1 : o1 < o2 := hD.tok_lt o1 o2 d1 d2 hd1 hd2 (by omega)
    have l2 : o2 < d1.end_.toNat := hD.tok_lt o2 _ d2 de1 hd2 hde1 (by omega)
    have l3 : d1.end_.toNat < d2.end_.toNat := hD.tok_lt _ _ de1 de2 hde1 hde2 (by omega)
    exact hlam o1 o2 d1 d2 hd1 hd2 he1 he2 ⟨l1, by omega, by omega⟩

theorem emphPost_desc (D : List Delim) (n : Nat) (hD : PostHyp D n) (hlam : C02e.Laminar D) (fuel : Nat) (i : Int) (ts : List Tok)
    (hlen : ts.length = n) (hm : Marks ts []) : ∃ P', Desc (emphPostGo D fuel i ts) P' := by
  obtain ⟨i', _, P', hm', hsrc'⟩ := emphPostGo_ind D (fun i ts => ts.length = n ∧ ∃ P, Marks ts P ∧ FromPairs D i P)
    (fun _ i' _ hi h => ⟨h.1, h.2.imp fun _ hP => ⟨hP.1, hP.2.down i' hi⟩⟩)
    (by
      rintro i ts sd ed strong mk hi0 hsd hne hed ⟨hlen, P, hm, hsrc⟩
      have he := hD.end_nonneg hsd hne
      have hlt : i.toNat < sd.end_.toNat := by rcases hD.ends i.toNat sd hsd with h1 | h1 <;> omega
      have hab := hD.tokInc i.toNat sd.end_.toNat sd ed hsd hed hlt
      have hba := hD.tokBound i.toNat sd hsd
      have hbb := hD.tokBound sd.end_.toNat ed hed
      refine ⟨by simp [hlen], _, hm.cons _ _ (if strong then "strong" else "em") _ _ _ _ (by omega)
        (List.getElem?_eq_getElem (by omega)) (List.getElem?_eq_getElem (by omega))
        (hsrc.apart hD hi0 hsd he hed) (fun t => Tok.setEmph_nesting t _ _ _ _) (fun t => Tok.setEmph_tag t _ _ _ _)
        (fun t => Tok.setEmph_nesting t _ _ _ _) (fun t => Tok.setEmph_tag t _ _ _ _), ?_⟩
      intro b hb
      rcases List.mem_cons.1 hb with rfl | hb
      · exact ⟨i.toNat, sd, ed, by omega, hsd, he, hed, by show ((sd.token.toNat : Nat) : Int) = sd.token; omega,
          by show ((ed.token.toNat : Nat) : Int) = ed.token; omega⟩
      · exact (hsrc.down _ (by omega)) b hb)
    (fun _ _ p h => ⟨by simp [h.1],
      h.2.imp fun _ hP => ⟨hP.1.same p _ (fun t => Tok.setContent_nesting t _) (fun t => Tok.setContent_tag t _), hP.2⟩⟩)
    fuel i ts ⟨hlen, [], hm, fun _ hb => nomatch hb⟩
  exact ⟨P', desc_of_pairs hD hlam hsrc' hm'⟩

theorem tagNest_zero (st : List String) (t : Tok) (r : List Tok) (h : t.nesting = 0) : tagNest st (t :: r) = tagNest st r := by
  cases st <;> simp [tagNest, h]

theorem tagNest_congr (st : List String) (t u : Tok) (r r' : List Tok) (hn : u.nesting = t.nesting) (ht : u.tag = t.tag)
    (hr : ∀ st', tagNest st' r' = tagNest st' r) : tagNest st (u :: r') = tagNest st (t :: r) := by
  cases st <;> simp only [tagNest, hn, ht, hr]

theorem fragmentsJoin_tagNest (level : Int) (ts : List Tok) (ht : ∀ t ∈ ts, t.type = "text" → t.nesting = 0) :
    ∀ st, tagNest st (fragmentsJoin level ts) = tagNest st ts :=
  fragmentsJoin_fold tagNest tagNest_congr (fun st t n r h0 _ => tagNest_zero st t (n :: r) h0) level ts ht

/-- **C02g.emini_tags_nested** — in the inline stream with emphasis (any subset of `newline`, `escape`, `backticks`), `tagNest` succeeds
with an empty stack: every closing token finds, as the innermost open token, an opening token with its own tag.  Since the renderer
writes `<tag>` / `</tag>` for an opening / closing token, the `em` and `strong` elements of the output are nested -/
theorem emini_tags_nested (cls : QCls) (c : C01.IMiniCfg) (maxNesting : Int) (src : List Char) (ts : List Tok)
    (h : inlineParse (C01.eminiChain cls c true) [balancePairs, emphasisPost] true maxNesting src = .ok ts) :
    tagNest [] ts = some [] := by
  obtain ⟨s2, htk, rfl⟩ := C01.inlineParse_ok h
  have h2 : ZeroD s2 := emini_zeroD htk
  have hD := postHyp_of_zeroD s2 h2
  have hinv := postInv_init s2 h2
  obtain ⟨P', hdesc⟩ := emphPost_desc (processDelims s2.delimiters) s2.tokens.length hD (laminar_of_balD s2 h2.1) (processDelims s2.delimiters).length _ s2.tokens
    rfl ⟨fun _ hb => (nomatch hb), fun _ hb => (nomatch hb), fun p t hp _ => h2.2 t (List.mem_of_getElem? hp)⟩
  obtain ⟨_, _, htext⟩ := emphPost_inv (processDelims s2.delimiters) s2.tokens.length hD (processDelims s2.delimiters).length _ s2.tokens hinv
  exact (fragmentsJoin_tagNest 0 _ htext []).trans (nest_of_desc _ P' hdesc)

/-! non-vacuity: the stack discipline is not trivially satisfied — a crossing stream fails it, the parser's stream for the crossing
attempt `*a _b* c_` passes -/
example : tagNest [] [mkInlineTok "em_open" "em" 1 0 "" "*" "", mkInlineTok "strong_open" "strong" 1 1 "" "**" "",
    mkInlineTok "em_close" "em" (-1) 1 "" "*" "", mkInlineTok "strong_close" "strong" (-1) 0 "" "**" ""] = none := by decide

example : (match inlineParse (C01.eminiChain asciiCls ⟨true, true, true⟩ true) [balancePairs, emphasisPost] true 20 "*a _b* c_ **d *e* f**".toList with
    | .ok ts => tagNest [] ts
    | .error _ => none) = some [] := by decide +kernel

end MdIt.C02g
