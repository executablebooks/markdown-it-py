import MdIt.Props.C02k
import MdIt.Props.C03e
/-!
# C03 (continued) — source maps of the block stream with the `table` rule in the chain

What a match leaves — `table_open :: header ++ (tbody_open :: rows ++ [tbody_close])? ++ [table_close]` with the two placeholders
`[startLine, 0]` / `[startLine + 2, 0]` replaced by the final line (`tableToks`) — has every map in `[startLine, state.line)`
(`C10.mem_tableToks`); the map contract is read off `C01.table_leaf`.
-/
namespace MdIt.C03
open MdIt.C01 MdIt.C02 MdIt.C10

theorem table_appendsM (codeOn : Bool) (terms : List BRule) (hin : ∀ t ∈ terms, SilentInert t) (ws : List Nat) (s : BState) (line endLine : Nat)
    (hlen : endLine < s.lines.length) (s' : BState) (h : ruleTable codeOn terms ws s line endLine false = .ok (true, s')) :
    ∃ seg, s'.tokens = s.tokens ++ seg ∧ MapsIn line s'.line seg := by
  rcases table_run codeOn terms hin ws s line endLine hlen with h' | ⟨_, _, _, _, _, h'⟩
  · rw [h'] at h; cases h
  · rw [h'] at h; cases h
    exact ⟨_, rfl, fun t ht => (mem_tableToks ht).2⟩

theorem mapOK_table (P : BState → Nat → Prop) (codeOn : Bool) (terms : List BRule) (hin : ∀ t ∈ terms, SilentInert t) (ws : List Nat) :
    MapOK P (ruleTable codeOn terms ws) :=
  mapOK_of_leaf (table_leaf P codeOn terms hin ws) fun _ _ _ _ _ _ ⟨_, _, _, _, _, hn, hseg⟩ t ht => by
    subst hn hseg
    exact (mem_tableToks ht).2

theorem mapOK_tLeaves (c : TCfg) (ws : List Nat) (mn : Int) (P : BState → Nat → Prop) :
    ∀ r ∈ tLeaves c ws mn, MapOK P r :=
  forall_tLeaves (fun _ => mapOK_table _ _ _ (mTerminators_inert c.toMCfg ws mn) ws)
    (mapOK_leavesM P c.toMCfg (tParaTerms_inertE c ws mn) ws)

def InnerMapsT (ext : IExt) (lx : LExt) (c : TCfg) (ws : List Nat) (mn : Int) (d : Nat) : Prop :=
  ∀ (s : BState) (startLine endLine : Nat) (s' : BState), s.lineMax + 1 ≤ s.lines.length → endLine ≤ s.lineMax → Lv mn d s endLine →
    blockTokenize (tChain ext lx c ws mn d) mn s startLine endLine = .ok s' →
    ∃ new, s'.tokens = s.tokens ++ new ∧ Staged startLine s'.line new

theorem tChain_maps (ext : IExt) (lx : LExt) (c : TCfg) (hnr : c.reference = false) (ws : List Nat) (mn : Int) : ∀ d : Nat,
    (∀ r ∈ tChain ext lx c ws mn d, MapOK (Lv mn d) r) ∧ InnerMapsT ext lx c ws mn d :=
  tower_maps (tTower ext lx c hnr ws mn) (tChain_ok ext lx c hnr ws mn) (fun _ => mapOK_list mn) (mapOK_tLeaves c ws mn)

/-- **C03.t_staged** — the parse with the `table` rule in the chain (ten of eleven rules), block quotes and lists nested in each other to
any depth: the top-level blocks of the stream are staged inside the document (maps in range, non-empty, increasing, disjoint), and
every token of a stage, at whatever depth inside quotes, lists and tables, has its map inside the stage's line range.  That a token
between a container's opening and closing token has its map inside that container's map, and a token of a table (header, body, rows,
cells' inline tokens) inside the table's, at every depth, is proved on the way (`mapOK_blockquote`, `mapOK_list`, `mapOK_table`) and
not recorded in the statement. -/
theorem t_staged (ext : IExt) (lx : LExt) (c : TCfg) (hnr : c.reference = false) (ws : List Nat) (maxNesting : Int) (src : List Char)
    (st : BState) (h : tParse ext lx c ws maxNesting src = .ok st) : Staged 0 (initBState (normalize src)).lineMax st.tokens :=
  parse_staged maxNesting _ (tChain_ok ext lx c hnr ws maxNesting _).1 (tChain_maps ext lx c hnr ws maxNesting _).1 src st h

end MdIt.C03
