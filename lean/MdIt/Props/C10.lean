import MdIt.Proofs.Ruler
import MdIt.Proofs.Dict
import MdIt.Render
/-!
# C10 — rule and option switches have exactly their documented effect

Three groups: the rulers (only enabled rules are dispatched; the façade switches a rule in all four rulers), the option dictionary
(the routes of setting an option; a write does not disturb other keys), the renderer (`definition` tokens render to nothing).
-/
namespace MdIt.C10

/-- **C10.chain_only_enabled** (dispatch) — every function in a compiled chain (the main chain or a named terminator
chain) belongs to an *enabled* rule: a disabled rule is never dispatched, neither as a block/inline
rule nor as a terminator of another rule. With C11.coherent this holds after any history. -/
theorem chain_only_enabled (rules : List Rule) (chain : String) (f : Nat) (h : f ∈ chainOf rules chain) :
    ∃ r ∈ rules, r.enabled = true ∧ r.fn = f ∧ (chain = "" ∨ chain ∈ r.alt) :=
  mem_chainOf.1 h

/-- what `getRules` hands to a parser on a coherent ruler is such a chain -/
theorem getRules_only_enabled (r : Ruler) (hc : r.Coherent) (chain : String) (f : Nat)
    (h : f ∈ (r.getRules chain).2) : ∃ x ∈ r.rules, x.enabled = true ∧ x.fn = f := by
  rw [(getRules_spec r hc chain).1] at h
  obtain ⟨x, hx, he, hf, _⟩ := chain_only_enabled r.rules chain f h
  exact ⟨x, hx, he, hf⟩

/-- `MarkdownIt.disable(name)` / `enable(name)` switch the tokenizer *and* its post-processor
(`inline.ruler2`) together: in each of the four rulers the rule that carries the name ends up with
the requested flag (whatever `ign`: `setMany` calls each ruler with `ignoreInvalid = true`) -/
theorem facade_switches (m : Rulers) (b : Bool) (name : String) (ign : Bool) (w : Which) (j : Nat)
    (hf : findRule (m.get w).rules name = some j) :
    ∃ x y, (m.get w).rules[j]? = some x ∧ ((m.setMany b [name] ign).1.get w).rules[j]? = some y
      ∧ y = { x with enabled := b } := by
  have hlt : j < (m.get w).rules.length := (List.findIdx?_eq_some_iff_getElem.1 hf).1
  refine ⟨_, _, List.getElem?_eq_getElem hlt, ?_, rfl⟩
  rw [setMany_get, enable_disable_eq]
  show ((enableLoop b true [name] (m.get w).rules []).1)[j]? = _
  rw [enableLoop_rules, appliedNames_cons_some hf, List.getElem?_eq_getElem hlt]
  simp [hf]

theorem dictGet_dictSet {β} (d : List (String × β)) (k : String) (v : β) : dictGet (dictSet d k v) k = some v := by
  rw [dictGet_dictSet_eq, if_pos rfl]

/-- **C10.routes** — the three public routes of setting an option (constructor `options_update`,
`md.options[k] = v`, `md.options.k = v`) are indistinguishable: each performs the same assignment on
the one backing dictionary, and a read through either route returns the value written. -/
theorem routes (i : Inst) (r1 r2 : Route) (k : String) (v : OptVal) :
    i.setOpt r1 k v = i.setOpt r2 k v ∧ dictGet (i.setOpt r1 k v).options k = some v :=
  ⟨rfl, dictGet_dictSet i.options k v⟩

/-- setting one option leaves the others alone -/
theorem setOpt_other (i : Inst) (r : Route) (k k' : String) (v : OptVal) (h : k' ≠ k) :
    dictGet (i.setOpt r k v).options k' = dictGet i.options k' :=
  (dictGet_dictSet_eq i.options k k' v).trans (if_neg h)

/-- **C10.definition_renders_empty** (defs: render) — a `definition` token (produced only with `inline_definitions`) renders
to nothing -/
theorem definition_renders_empty (x : Ext) (o : ROpts) (prev next : Option Tok) (t : Tok)
    (h : t.type = "definition") : renderOne x o prev t next = .ok [] := by
  unfold renderOne
  simp [h]

end MdIt.C10
