import MdIt.Proofs.Render
/-!
# C18 — inline text means the same in every block context; render options are inert

Renderer-only options, on the piece model of `MdIt/Render.lean`: each reaches only the pieces it is meant for.  That the parser
takes no renderer option at all holds by the type of the model (`inlineParse` and the block engine have no `ROpts` argument); which
option keys the real parser reads is checked by the tie.
-/
namespace MdIt.C18

def eraseSlash : Piece → Piece
  | .tag c n a _ => .tag c n a false
  | p => p

/-- the options reach the pieces of `renderToken` only through the slash flag of its tag -/
theorem renderTokenP_map_opts {α} (f : Piece → α) (hf : ∀ c n a s s', f (.tag c n a s) = f (.tag c n a s'))
    (o o' : ROpts) (prev : Option Tok) (t : Tok) (next : Option Tok) :
    (renderTokenP o prev t next).map f = (renderTokenP o' prev t next).map f := by
  unfold renderTokenP
  cases t.hidden
  · simp only [Bool.false_eq_true, if_false, List.map_append, List.map_cons]
    rw [hf _ _ _ _ (t.nesting == 0 && o'.xhtmlOut)]
  · rfl

def emap (e : Except PyErr (List Piece)) : Except PyErr (List Piece) := e.map (·.map eraseSlash)

theorem emap_seqE (A B : Except PyErr (List Piece)) : emap (seqE A B) = seqE (emap A) (emap B) := by
  cases A with
  | error e => rfl
  | ok ps =>
    cases B with
    | error e => rfl
    | ok qs => exact congrArg Except.ok List.map_append

theorem renderOne_xhtml (x : Ext) (o : ROpts) (b : Bool) (prev : Option Tok) (t : Tok) (next : Option Tok) :
    emap (renderOne x { o with xhtmlOut := b } prev t next) = emap (renderOne x o prev t next) := by
  have tok (u : Tok) := congrArg (Except.ok (ε := PyErr)) (renderTokenP_map_opts eraseSlash (fun _ _ _ _ _ => rfl) { o with xhtmlOut := b } o prev u next)
  rw [renderOne_eq, renderOne_eq]
  cases kindOf t.type
  case image => exact tok _
  case other => exact tok _
  case softbreak =>
    simp only [renderKind]
    cases o.breaks <;> rfl
  all_goals rfl

theorem renderInlineP_xhtml (x : Ext) (o : ROpts) (b : Bool) (ts : List Tok) (prev : Option Tok) :
    emap (renderInlineP x { o with xhtmlOut := b } prev ts) = emap (renderInlineP x o prev ts) := by
  induction ts generalizing prev with
  | nil => rfl
  | cons t rest ih =>
    rw [renderInlineP, renderInlineP, emap_seqE, emap_seqE, renderOne_xhtml, ih]

/-- **C18.xhtml_local** — `xhtmlOut` changes nothing but the ` /` of self-closing tags: with the
slash flags erased, the piece lists under any two values of `xhtmlOut` are equal (same tags, same
attributes, same escaped text, same newlines), and so are the error outcomes. -/
theorem xhtml_local (x : Ext) (o : ROpts) (b : Bool) (ts : List Tok) (prev : Option Tok) :
    emap (renderP x { o with xhtmlOut := b } prev ts) = emap (renderP x o prev ts) := by
  induction ts generalizing prev with
  | nil => rfl
  | cons t rest ih =>
    rw [renderP_cons, renderP_cons, emap_seqE, emap_seqE, ih]
    by_cases hin : (t.type == "inline") = true
    · rw [if_pos hin, if_pos hin, renderInlineP_xhtml]
    · rw [if_neg hin, if_neg hin, renderOne_xhtml]

/-- the alt text of an image does not depend on any renderer option: `inlineAsText` has none in its
signature, and `setAlt` is the only place it is used; the attributes `renderToken` then writes do not
depend on `xhtmlOut`, the one option it reads -/
theorem alt_independent (o1 o2 : ROpts) (prev next : Option Tok) (t : Tok) :
    (renderTokenP o1 prev (setAlt t) next).map (fun p => match p with | .tag _ _ a _ => a | _ => [])
      = (renderTokenP { o1 with xhtmlOut := o2.xhtmlOut } prev (setAlt t) next).map
          (fun p => match p with | .tag _ _ a _ => a | _ => []) :=
  renderTokenP_map_opts _ (fun _ _ _ _ _ => rfl) _ _ prev (setAlt t) next

/-- **C18.langPrefix_local** — for a token that is not a fence with a language, `langPrefix` is
irrelevant -/
theorem langPrefix_local (x : Ext) (o : ROpts) (lp : List Char) (prev next : Option Tok) (t : Tok)
    (h : t.type ≠ "fence" ∨ x.fenceLang t = none) :
    renderOne x { o with langPrefix := lp } prev t next = renderOne x o prev t next := by
  rw [renderOne_eq, renderOne_eq]
  cases kindOf t.type
  case fence hf =>
    rcases h with h | h
    · exact absurd hf h
    · simp only [renderKind, h]
  all_goals rfl

/-- **C18.breaks_local** — for every token other than `softbreak`, `breaks` is irrelevant -/
theorem breaks_local (x : Ext) (o : ROpts) (b : Bool) (prev next : Option Tok) (t : Tok) (h : t.type ≠ "softbreak") :
    renderOne x { o with breaks := b } prev t next = renderOne x o prev t next := by
  rw [renderOne_eq, renderOne_eq]
  cases kindOf t.type
  case softbreak hs => exact absurd hs h
  all_goals rfl

/-- and a `softbreak` under `breaks=True` renders exactly like a `hardbreak` -/
theorem softbreak_as_hardbreak (x : Ext) (o : ROpts) (prev next : Option Tok) (s hb : Tok)
    (hs : s.type = "softbreak") (hh : hb.type = "hardbreak") :
    renderOne x { o with breaks := true } prev s next = renderOne x { o with breaks := false } prev hb next := by
  simp [renderOne, hs, hh, br]

end MdIt.C18
