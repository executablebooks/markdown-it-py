import MdIt.Props.C17
import MdIt.BlockList
import MdIt.Proofs.BlockRules
import MdIt.BlockMore
import MdIt.Pipeline
import MdIt.BlockTable
/-!
# C17 (continued) — equivalent encodings give the same parse: end-to-end for the modelled sub-parsers and for `MarkdownIt.parse`

Every modelled parser reads the source through `normalize` only, so the encoding theorems of `C17` lift to whole parses: any
mixture of LF / CR LF / CR spellings of the line endings, and NUL vs U+FFFD, give the same result.  For `miniParse`, `qParse`,
`lParse`, `mParse` (nine block rules, HTML blocks and setext headings included) the result is the block token stream; for
`fullParse`, `fullParseR`, `fullParseT` (`MarkdownIt.parse` on the modelled sub-language, the last with all eleven block rules) it is
the block tokens, table rows and cells included, the children of every inline token at every depth, and the env entries the
`reference` rule records.
-/
namespace MdIt.C17

theorem parseWith_normalize (chain : List BRule) (mn : Int) {s s' : List Char} (h : normalize s' = normalize s) :
    parseWith chain mn s' = parseWith chain mn s := by
  unfold parseWith
  rw [h, isEmpty_of_normalize h]

theorem blockParse_normalize (chain : List BRule) (mn : Int) {s s' : List Char} (h : normalize s' = normalize s) :
    blockParse chain mn s' = blockParse chain mn s := by
  unfold blockParse
  rw [h, isEmpty_of_normalize h]

theorem q_line_endings (c : MiniCfg) (ws : List Nat) (mn : Int) (s s' : List Char) (hm : Mixed s s') (h : noCR s) :
    qParse c ws mn s' = qParse c ws mn s :=
  parseWith_normalize _ mn (normalize_mixed s s' hm h)

theorem mini_line_endings (c : MiniCfg) (ws : List Nat) (mn : Int) (s s' : List Char) (hm : Mixed s s') (h : noCR s) :
    miniParse c ws mn s' = miniParse c ws mn s :=
  parseWith_normalize _ mn (normalize_mixed s s' hm h)

/-- **C17.q_nul** — a NUL character parses like U+FFFD -/
theorem q_nul (c : MiniCfg) (ws : List Nat) (mn : Int) (s : List Char) :
    qParse c ws mn (s.map (fun ch => if ch = '\x00' then '�' else ch)) = qParse c ws mn s :=
  parseWith_normalize _ mn (nul_like_fffd s)

theorem mini_nul (c : MiniCfg) (ws : List Nat) (mn : Int) (s : List Char) :
    miniParse c ws mn (s.map (fun ch => if ch = '\x00' then '�' else ch)) = miniParse c ws mn s :=
  parseWith_normalize _ mn (nul_like_fffd s)

/-- **C17.l_line_endings** — with quotes and lists -/
theorem l_line_endings (c : MiniCfg) (ws : List Nat) (mn : Int) (s s' : List Char) (hm : Mixed s s') (h : noCR s) :
    lParse c ws mn s' = lParse c ws mn s :=
  parseWith_normalize _ mn (normalize_mixed s s' hm h)

theorem l_nul (c : MiniCfg) (ws : List Nat) (mn : Int) (s : List Char) :
    lParse c ws mn (s.map (fun ch => if ch = '\x00' then '�' else ch)) = lParse c ws mn s :=
  parseWith_normalize _ mn (nul_like_fffd s)

theorem m_line_endings (c : MCfg) (ws : List Nat) (mn : Int) (s s' : List Char) (hm : Mixed s s') (h : noCR s) :
    mParse c ws mn s' = mParse c ws mn s :=
  parseWith_normalize _ mn (normalize_mixed s s' hm h)

theorem m_nul (c : MCfg) (ws : List Nat) (mn : Int) (s : List Char) :
    mParse c ws mn (s.map (fun ch => if ch = '\x00' then '�' else ch)) = mParse c ws mn s :=
  parseWith_normalize _ mn (nul_like_fffd s)

theorem full_line_endings (cls : QCls) (ext : IExt) (lx : LExt) (bc : MCfg) (ic : ICfg) (ws : List Nat) (mn : Int) (d : Nat)
    (s s' : List Char) (hm : Mixed s s') (h : noCR s) :
    fullParse cls ext lx bc ic ws mn d s' = fullParse cls ext lx bc ic ws mn d s := by
  unfold fullParse
  rw [m_line_endings bc ws mn s s' hm h]

theorem full_nul (cls : QCls) (ext : IExt) (lx : LExt) (bc : MCfg) (ic : ICfg) (ws : List Nat) (mn : Int) (d : Nat) (s : List Char) :
    fullParse cls ext lx bc ic ws mn d (s.map (fun ch => if ch = '\x00' then '�' else ch)) = fullParse cls ext lx bc ic ws mn d s := by
  unfold fullParse
  rw [m_nul bc ws mn s]

theorem r_line_endings (ext : IExt) (lx : LExt) (c : RCfg) (ws : List Nat) (mn : Int) (s s' : List Char) (hm : Mixed s s') (h : noCR s) :
    rParse ext lx c ws mn s' = rParse ext lx c ws mn s :=
  blockParse_normalize _ mn (normalize_mixed s s' hm h)

theorem r_nul (ext : IExt) (lx : LExt) (c : RCfg) (ws : List Nat) (mn : Int) (s : List Char) :
    rParse ext lx c ws mn (s.map (fun ch => if ch = '\x00' then '�' else ch)) = rParse ext lx c ws mn s :=
  blockParse_normalize _ mn (nul_like_fffd s)

/-- **C17.fullR_line_endings** — with the `reference` rule: tokens, children and the recorded env entries -/
theorem fullR_line_endings (cls : QCls) (ext : IExt) (lx : LExt) (rc : RCfg) (ic : ICfg) (ws : List Nat) (mn : Int) (d : Nat)
    (s s' : List Char) (hm : Mixed s s') (h : noCR s) :
    fullParseR cls ext lx rc ic ws mn d s' = fullParseR cls ext lx rc ic ws mn d s := by
  unfold fullParseR
  rw [r_line_endings ext lx rc ws mn s s' hm h]

theorem fullR_nul (cls : QCls) (ext : IExt) (lx : LExt) (rc : RCfg) (ic : ICfg) (ws : List Nat) (mn : Int) (d : Nat) (s : List Char) :
    fullParseR cls ext lx rc ic ws mn d (s.map (fun ch => if ch = '\x00' then '�' else ch)) = fullParseR cls ext lx rc ic ws mn d s := by
  unfold fullParseR
  rw [r_nul ext lx rc ws mn s]

theorem t_line_endings (ext : IExt) (lx : LExt) (c : TCfg) (ws : List Nat) (mn : Int) (s s' : List Char) (hm : Mixed s s') (h : noCR s) :
    tParse ext lx c ws mn s' = tParse ext lx c ws mn s :=
  blockParse_normalize _ mn (normalize_mixed s s' hm h)

theorem t_nul (ext : IExt) (lx : LExt) (c : TCfg) (ws : List Nat) (mn : Int) (s : List Char) :
    tParse ext lx c ws mn (s.map (fun ch => if ch = '\x00' then '�' else ch)) = tParse ext lx c ws mn s :=
  blockParse_normalize _ mn (nul_like_fffd s)

/-- **C17.fullT_line_endings** — all eleven block rules: tokens, children and the recorded env entries -/
theorem fullT_line_endings (cls : QCls) (ext : IExt) (lx : LExt) (tc : TCfg) (ic : ICfg) (ws : List Nat) (mn : Int) (d : Nat)
    (s s' : List Char) (hm : Mixed s s') (h : noCR s) :
    fullParseT cls ext lx tc ic ws mn d s' = fullParseT cls ext lx tc ic ws mn d s := by
  unfold fullParseT
  rw [t_line_endings ext lx tc ws mn s s' hm h]

theorem fullT_nul (cls : QCls) (ext : IExt) (lx : LExt) (tc : TCfg) (ic : ICfg) (ws : List Nat) (mn : Int) (d : Nat) (s : List Char) :
    fullParseT cls ext lx tc ic ws mn d (s.map (fun ch => if ch = '\x00' then '�' else ch)) = fullParseT cls ext lx tc ic ws mn d s := by
  unfold fullParseT
  rw [t_nul ext lx tc ws mn s]

end MdIt.C17
