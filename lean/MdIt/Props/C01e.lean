import MdIt.Props.C01
import MdIt.Proofs.InlinePush
/-!
# C01 (continued) — the inline sub-parser `text, newline, escape, backticks` is total

The inline rules index `src[pos]` and would raise `IndexError` outside the source: their contract is relative to the call context
the loop guarantees (`ICtx`: `pos < posMax ≤ len(src)`).  Every rule that does not re-enter the engine is described once and exactly
(`Leaf T r`: each call is a `Call`, with `T` a predicate on the steps of its script of pushes).  That a call in the context returns
is `Leaf.total`; what a call that returned has done, for this property and the others, is read off that description through
`Leaf.did`, asking of `T` what the property needs of a step.

Three contracts for an inline rule: `IRuleOK` (`Props/C01.lean`) has no call context and is met by no modelled rule; `IRuleOK2` (here) is
relative to `ICtx` and speaks of normal mode: the one the chains without `link` are proved against; `IOK4` (`Props/C01i.lean`) covers
both modes and the position memo, needed once `link` re-enters the chain silently.  A rule with a `Leaf` description has the last two.
-/
namespace MdIt.C01

/-- what the loop guarantees at every dispatch -/
def ICtx (s : IState) : Prop := s.pos < s.posMax ∧ s.posMax ≤ s.src.length

structure IRuleOK2 (r : IRule) : Prop where
  total : ∀ s silent, ICtx s → ∃ m s', r s silent = .ok (m, s')
  progress : ∀ s s', ICtx s → r s false = .ok (true, s') → s.pos < s'.pos
  miss : ∀ s s', ICtx s → r s false = .ok (false, s') → s'.pos = s.pos
  frame : ∀ s m s', ICtx s → r s false = .ok (m, s') → s'.src = s.src ∧ s'.level = s.level ∧ s'.posMax = s.posMax

theorem IRuleOK2.ctx_miss {r : IRule} (h : IRuleOK2 r) {s s' : IState} (hc : ICtx s) (hr : r s false = .ok (false, s')) : ICtx s' := by
  have hf := h.frame _ _ _ hc hr
  unfold ICtx at *
  rw [h.miss _ _ hc hr, hf.2.2, hf.1]; exact hc

theorem ichain_ok2 (rules : List IRule) (hok : ∀ r ∈ rules, IRuleOK2 r) (s : IState) (hc : ICtx s) :
    ∃ m s', runChain rules s = .ok (m, s') ∧ s'.src = s.src ∧ s'.level = s.level ∧ s'.posMax = s.posMax
      ∧ (m = true → s.pos < s'.pos) ∧ (m = false → s'.pos = s.pos) := by
  obtain ⟨m, s', h, ⟨a, b, c⟩, p, q⟩ := runChain_total ICtx (fun a b => b.src = a.src ∧ b.level = a.level ∧ b.posMax = a.posMax)
    (fun _ => ⟨rfl, rfl, rfl⟩) (fun _ _ _ h1 h2 => ⟨h2.1.trans h1.1, h2.2.1.trans h1.2.1, h2.2.2.trans h1.2.2⟩) rules
    (fun r hr s hc => by
      obtain ⟨m, s', h⟩ := (hok r hr).total s false hc
      exact ⟨m, s', h, (hok r hr).frame _ _ _ hc h, fun e => (hok r hr).progress _ _ hc (e ▸ h),
        fun e => ⟨(hok r hr).miss _ _ hc (e ▸ h), (hok r hr).ctx_miss hc (e ▸ h)⟩⟩)
    s hc
  exact ⟨m, s', h, a, b, c, p, q⟩

/-- **C01.inline_total2** — the inline loop returns for every chain of rules that keep their contracts in the loop's call context -/
theorem inline_total2 (rules : List IRule) (hok : ∀ r ∈ rules, IRuleOK2 r) (maxNesting : Int) :
    ∀ (fuel : Nat) (ok : Bool) (s : IState), s.posMax ≤ s.src.length → s.posMax - s.pos < fuel →
      (s.level ≥ maxNesting → ok = false) →
      ∃ s', tokenizeLoop rules maxNesting s.posMax fuel ok s = .ok s' := by
  intro fuel ok s hend hf hstale
  obtain ⟨s', h, _⟩ := tokenizeLoop_total rules maxNesting s.posMax (fun x => x.posMax = s.posMax ∧ s.posMax ≤ x.src.length)
    (fun _ h => h.2) (fun _ _ h => h)
    (fun x hJ hlt => by
      obtain ⟨m, x', hc, hsrc, hlvl, hmax, hp, hm⟩ := ichain_ok2 rules hok x ⟨by rw [hJ.1]; exact hlt, by rw [hJ.1]; exact hJ.2⟩
      exact ⟨m, x', hc, ⟨hmax.trans hJ.1, by rw [hsrc]; exact hJ.2⟩, hlvl, hp, hm⟩) fuel ok s ⟨rfl, hend⟩ hf hstale
  exact ⟨s', h⟩

theorem inlineParse_total {rules : List IRule} (hok : ∀ r ∈ rules, IRuleOK2 r) (post : List (IState → IState)) (fragJoin : Bool)
    (maxNesting : Int) (src : List Char) : ∃ ts, inlineParse rules post fragJoin maxNesting src = .ok ts := by
  unfold inlineParse tokenize
  obtain ⟨s', h⟩ := inline_total2 rules hok maxNesting ((IState.init src).posMax - (IState.init src).pos + 1) false
    (IState.init src) (Nat.le_refl _) (by omega) (fun _ => rfl)
  rw [h]
  exact ⟨_, rfl⟩

theorem inlineParse_ok {rules : List IRule} {post : List (IState → IState)} {fragJoin : Bool} {mn : Int} {src : List Char} {ts : List Tok}
    (h : inlineParse rules post fragJoin mn src = .ok ts) : ∃ s, tokenize rules mn (IState.init src) = .ok s
      ∧ ts = if fragJoin then fragmentsJoin 0 (post.foldl (fun acc f => f acc) s).tokens else (post.foldl (fun acc f => f acc) s).tokens := by
  unfold inlineParse at h
  cases hl : tokenize rules mn (IState.init src) with
  | error e => rw [hl] at h; cases h
  | ok s => rw [hl] at h; cases h; exact ⟨s, rfl, rfl⟩

theorem level_after_push (l n : Int) :
    (if n > 0 then (if n < 0 then l - 1 else l) + 1 else (if n < 0 then l - 1 else l)) = (if n < 0 then l - 1 else if n > 0 then l + 1 else l) := by
  by_cases h1 : n < 0
  · rw [if_neg (by omega), if_pos h1, if_pos h1]
  · by_cases h2 : n > 0
    · rw [if_pos h2, if_neg h1, if_neg h1, if_pos h2]
    · rw [if_neg h2, if_neg h1, if_neg h1, if_neg h2]

theorem push_frame (s : IState) (a b : String) (n : Int) (c d e : String) :
    (s.push a b n c d e).src = s.src ∧ (s.push a b n c d e).posMax = s.posMax ∧ (s.push a b n c d e).pos = s.pos
      ∧ (s.push a b n c d e).level = (if n < 0 then s.level - 1 else if n > 0 then s.level + 1 else s.level) := by
  rw [push_eq]; exact ⟨rfl, rfl, rfl, level_after_push _ n⟩

theorem push0_frame (s : IState) (a b c d e : String) :
    (s.push a b 0 c d e).src = s.src ∧ (s.push a b 0 c d e).level = s.level ∧ (s.push a b 0 c d e).posMax = s.posMax
      ∧ (s.push a b 0 c d e).pos = s.pos := by
  rw [push_eq]; exact ⟨rfl, rfl, rfl, rfl⟩

theorem pushIf_frame (silent : Bool) (s : IState) (a b c d e : String) :
    (if silent = true then s else s.push a b 0 c d e).src = s.src ∧ (if silent = true then s else s.push a b 0 c d e).level = s.level
      ∧ (if silent = true then s else s.push a b 0 c d e).posMax = s.posMax := by
  cases silent
  · exact ⟨(push0_frame ..).1, (push0_frame ..).2.1, (push0_frame ..).2.2.1⟩
  · exact ⟨rfl, rfl, rfl⟩

/-- `s0` is `s` up to what a rule writes before it pushes: `pending` and the backtick cache -/
def SamePend (s s0 : IState) : Prop := ∃ q bt bs, s0 = { s with pending := q, backticks := bt, backticksScanned := bs }

theorem SamePend.refl (s : IState) : SamePend s s := ⟨_, _, _, rfl⟩

/-- What a call of a rule that does not re-enter the engine can return.  `hit`: `pending` and the backtick cache written, then a script
of pushes that closes what it opens, then `pos` set further on (and perhaps `linkLevel`); no push in silent mode. -/
inductive Call (T : IState → POp → Prop) (s : IState) (silent : Bool) : Except PyErr (Bool × IState) → Prop
  | err (e : PyErr) : ¬ ICtx s → Call T s silent (.error e)
  | miss : Call T s silent (.ok (false, s))
  | hit (s0 : IState) (ops : List POp) (p : Nat) (ll : Int) : SamePend s s0 → (ICtx s → s.pos < p) → (silent = true → ops = []) →
      (∀ op ∈ ops, T s op) → opsBal 0 ops = true → Call T s silent (.ok (true, { runOps ops s0 with pos := p, linkLevel := ll }))

theorem Call.quiet {T s silent} (s0 : IState) (p : Nat) (h0 : SamePend s s0) (hp : ICtx s → s.pos < p) :
    Call T s silent (.ok (true, { s0 with pos := p })) :=
  .hit s0 [] p s0.linkLevel h0 hp (fun _ => rfl) nofun rfl

theorem Call.push {T s} (s0 : IState) (op : POp) (p : Nat) (ll : Int) (h0 : SamePend s s0) (hp : ICtx s → s.pos < p) (ht : T s op)
    (hn : op.nesting = 0) : Call T s false (.ok (true, { op.run s0 with pos := p, linkLevel := ll })) :=
  .hit s0 [op] p ll h0 hp nofun (fun _ h => List.mem_singleton.1 h ▸ ht) (opsBal_zero _ fun _ h => List.mem_singleton.1 h ▸ hn)

def Leaf (T : IState → POp → Prop) (r : IRule) : Prop := ∀ (s : IState) (silent : Bool), Call T s silent (r s silent)

/-- what a call that returned `(m, s')` did: it ran the script `ops`, flushing `pre` before it -/
structure Did (T : IState → POp → Prop) (s : IState) (silent m : Bool) (s' : IState) (ops : List POp) (pre : List Tok) : Prop where
  app : Appended s s' (pre ++ opToks s.level ops) (opRecs (s.tokens.length + pre.length) ops)
  flush : ∀ t ∈ pre, IsFlush t
  quiet : ops = [] → pre = []
  silent : silent = true → ops = []
  steps : ∀ op ∈ ops, T s op
  bal : opsBal 0 ops = true
  miss : m = false → s' = s
  fwd : m = true → ICtx s → s.pos < s'.pos

theorem Leaf.did {T r} (h : Leaf T r) {s : IState} {silent m : Bool} {s' : IState} (hr : r s silent = .ok (m, s')) :
    ∃ ops pre, Did T s silent m s' ops pre := by
  have hc := h s silent
  rw [hr] at hc
  cases hc with
  | miss => exact ⟨[], [], .refl s, nofun, fun _ => rfl, fun _ => rfl, nofun, rfl, fun _ => rfl, nofun⟩
  | hit s0 ops p ll h0 hp hs ht hb =>
    obtain ⟨q, bt, bs, rfl⟩ := h0
    obtain ⟨pre, hf, hq, a⟩ := runOps_appended ops { s with pending := q, backticks := bt, backticksScanned := bs } hb
    exact ⟨ops, pre, ⟨a.src, a.posMax, a.level, a.cache, a.scopes, a.openAt, a.metas, a.tokens, a.delimiters⟩, hf, hq, hs, ht, hb, nofun,
      fun _ => hp⟩

theorem Leaf.total {T r} (h : Leaf T r) (s : IState) (silent : Bool) (hc : ICtx s) : ∃ m s', r s silent = .ok (m, s') := by
  have := h s silent
  generalize r s silent = x at this
  cases this with
  | err _ hn => exact absurd hc hn
  | miss => exact ⟨_, _, rfl⟩
  | hit => exact ⟨_, _, rfl⟩

theorem Leaf.iok {T r} (h : Leaf T r) : IRuleOK2 r where
  total := h.total
  progress _ _ hc hr := let ⟨_, _, d⟩ := h.did hr; d.fwd rfl hc
  miss _ _ _ hr := let ⟨_, _, d⟩ := h.did hr; d.miss rfl ▸ rfl
  frame _ _ _ _ hr := let ⟨_, _, d⟩ := h.did hr; ⟨d.app.src, d.app.level, d.app.posMax⟩

theorem ictx_lt {s : IState} (hc : ICtx s) : s.pos < s.src.length := Nat.lt_of_lt_of_le hc.1 hc.2

theorem textEnd_gt (s : IState) (hc : ICtx s) (hne : textEnd s ≠ s.pos) : s.pos < textEnd s := by
  unfold textEnd at hne ⊢
  cases hf : (s.src.drop s.pos).findIdx? isTerminator with
  | some j => rw [hf] at hne; simp only at hne ⊢; omega
  | none => exact hc.1

theorem leaf_text : Leaf (fun _ _ => False) ruleText := by
  intro s silent
  unfold ruleText
  by_cases h : (textEnd s == s.pos) = true
  · rw [if_pos h]; exact .miss
  · rw [if_neg h]
    exact .quiet { s with pending := if silent then s.pending else s.pending ++ (s.src.take (textEnd s)).drop s.pos } (textEnd s)
      ⟨_, s.backticks, s.backticksScanned, rfl⟩ (fun hc => textEnd_gt s hc (by simpa using h))

theorem iok_text : IRuleOK2 ruleText := leaf_text.iok

theorem skipBlanks_ge (src : List Char) (max : Nat) : ∀ (fuel pos : Nat), pos ≤ skipBlanks src pos max fuel := by
  intro fuel pos
  fun_induction skipBlanks src pos max fuel <;> omega

theorem leaf_newline : Leaf (fun _ op => ∃ ty, (ty = "hardbreak" ∨ ty = "softbreak") ∧ op = .plain ty "br" "" "" "") ruleNewline := by
  intro s silent
  have hp : ICtx s → s.pos < skipBlanks s.src (s.pos + 1) s.posMax (s.posMax - s.pos) :=
    fun _ => skipBlanks_ge s.src s.posMax (s.posMax - s.pos) (s.pos + 1)
  fun_cases ruleNewline s silent
  case case1 h => exact .err _ fun hc => by rw [List.getElem?_eq_getElem (ictx_lt hc)] at h; cases h
  case case2 => exact .miss
  case case3 =>
    cases silent with
    | true => exact .quiet s _ (.refl s) hp
    | false =>
      rename_i s1
      simp only [s1]
      rw [if_neg Bool.false_ne_true]
      by_cases h2 : trailingSpaces s.pending ≥ 2
      · rw [if_pos h2]
        exact .push _ (.plain "hardbreak" "br" "" "" "") _ _ ⟨_, _, _, rfl⟩ hp ⟨_, .inl rfl, rfl⟩ rfl
      rw [if_neg h2]
      by_cases h3 : trailingSpaces s.pending = 1
      · rw [if_pos h3]
        exact .push _ (.plain "softbreak" "br" "" "" "") _ _ ⟨_, _, _, rfl⟩ hp ⟨_, .inr rfl, rfl⟩ rfl
      rw [if_neg h3]
      exact .push s (.plain "softbreak" "br" "" "" "") _ _ (.refl s) hp ⟨_, .inr rfl, rfl⟩ rfl

theorem iok_newline : IRuleOK2 ruleNewline := leaf_newline.iok

theorem leaf_escape : Leaf (fun _ op => op = .plain "hardbreak" "br" "" "" "" ∨ ∃ c m, op = .plain "text_special" "" c m "escape") ruleEscape := by
  intro s silent
  fun_cases ruleEscape s silent
  case case1 h => exact .err _ fun hc => by rw [List.getElem?_eq_getElem (ictx_lt hc)] at h; cases h
  case case2 | case3 => exact .miss
  case case4 h => exact .err _ fun hc => by have := List.getElem?_eq_none_iff.1 h; have := hc.2; omega
  case case5 =>
    have hp : ICtx s → s.pos < skipBlanks s.src (s.pos + 1 + 1) s.posMax (s.posMax - (s.pos + 1)) := fun _ => by
      have := skipBlanks_ge s.src s.posMax (s.posMax - (s.pos + 1)) (s.pos + 1 + 1); omega
    cases silent with
    | true => exact .quiet s _ (.refl s) hp
    | false => exact .push s (.plain "hardbreak" "br" "" "" "") _ _ (.refl s) hp (.inl rfl) rfl
  case case6 =>
    cases silent with
    | true => exact .quiet s (s.pos + 1 + 1) (.refl s) fun _ => by omega
    | false => exact .push s (.plain "text_special" "" _ _ "escape") (s.pos + 1 + 1) _ (.refl s) (fun _ => by omega) (.inr ⟨_, _, rfl⟩) rfl

theorem iok_escape : IRuleOK2 ruleEscape := leaf_escape.iok

theorem btRun_ge (src : List Char) (max : Nat) : ∀ (fuel pos : Nat), pos ≤ btRun src max fuel pos := by
  intro fuel pos
  fun_induction btRun src max fuel pos <;> omega

theorem btFind_spec (src : List Char) (from_ ms : Nat) (h : btFind src from_ = some ms) : from_ ≤ ms ∧ src[ms]? = some '`' := by
  unfold btFind at h
  cases hf : (src.drop from_).findIdx? (· == '`') with
  | none => rw [hf] at h; cases h
  | some j =>
    rw [hf] at h
    simp only [Option.some.injEq] at h
    subst h
    refine ⟨by omega, ?_⟩
    obtain ⟨hlt, hp, _⟩ := List.findIdx?_eq_some_iff_getElem.1 hf
    have : (src.drop from_)[j]? = some '`' := by
      rw [List.getElem?_eq_getElem hlt]
      simp only [beq_iff_eq] at hp
      rw [hp]
    rw [List.getElem?_drop] at this
    exact this

theorem btScan_spec (src : List Char) (max ol : Nat) : ∀ (fuel from_ : Nat) (bt bt' : List (Nat × Nat)) (ms me : Nat),
    btScan src max ol fuel from_ bt = (some (ms, me), bt') →
      from_ ≤ ms ∧ src[ms]? = some '`' ∧ me = btRun src max (max - ms) (ms + 1) ∧ me - ms = ol := by
  intro fuel from_ bt bt' ms me h
  fun_induction btScan src max ol fuel from_ bt with
  | case1 | case2 => cases h
  | case3 _ from_ _ m0 hf me' cl heq =>
    simp only [me', Prod.mk.injEq, Option.some.injEq] at h
    obtain ⟨⟨rfl, rfl⟩, _⟩ := h
    obtain ⟨h1, h2⟩ := btFind_spec src from_ m0 hf
    exact ⟨h1, h2, rfl, by simpa [cl, me'] using heq⟩
  | case4 _ from_ _ m0 hf me' _ _ ih =>
    obtain ⟨a1, a2, a3, a4⟩ := ih h
    simp only [me'] at a1
    have := (btFind_spec src from_ m0 hf).1; have := btRun_ge src max (max - m0) (m0 + 1)
    exact ⟨by omega, a2, a3, a4⟩

theorem btScan_some (src : List Char) (max ol : Nat) : ∀ (fuel from_ : Nat) (bt bt' : List (Nat × Nat)) (ms me : Nat),
    btScan src max ol fuel from_ bt = (some (ms, me), bt') → from_ < me := by
  intro fuel from_ bt bt' ms me h
  obtain ⟨h1, _, h2, _⟩ := btScan_spec src max ol fuel from_ bt bt' ms me h
  have := btRun_ge src max (max - ms) (ms + 1)
  omega

/-- the pushed token is the code span between the opening run `[s.pos, pos)` and the closer `btScan` finds -/
theorem leaf_backticks : Leaf (fun s op => ∃ bt ms me, s.src[s.pos]? = some '`'
      ∧ btScan s.src s.posMax (btRun s.src s.posMax (s.posMax - s.pos) (s.pos + 1) - s.pos)
          (s.src.length - btRun s.src s.posMax (s.posMax - s.pos) (s.pos + 1) + 1) (btRun s.src s.posMax (s.posMax - s.pos) (s.pos + 1)) s.backticks
        = (some (ms, me), bt)
      ∧ op = .plain "code_inline" "code" (String.ofList (codeSpanContent ((s.src.take ms).drop (btRun s.src s.posMax (s.posMax - s.pos) (s.pos + 1)))))
          (String.ofList ((s.src.take (btRun s.src s.posMax (s.posMax - s.pos) (s.pos + 1))).drop s.pos)) "") ruleBackticks := by
  intro s silent
  unfold ruleBackticks
  cases hq : s.src[s.pos]? with
  | none => exact .err _ fun hc => by rw [List.getElem?_eq_getElem (ictx_lt hc)] at hq; cases hq
  | some c =>
  simp only
  by_cases h1 : (c != '`') = true
  · rw [if_pos h1]; exact .miss
  rw [if_neg h1]
  have h0 : s.src[s.pos]? = some '`' := by rw [hq]; simpa using h1
  have hrun := btRun_ge s.src s.posMax (s.posMax - s.pos) (s.pos + 1)
  generalize hpos : btRun s.src s.posMax (s.posMax - s.pos) (s.pos + 1) = pos at hrun
  by_cases h2 : (s.backticksScanned && decide (btGet s.backticks (pos - s.pos) ≤ s.pos)) = true
  · rw [if_pos h2]
    exact .quiet { s with pending := if silent then s.pending else s.pending ++ (s.src.take pos).drop s.pos } (s.pos + (pos - s.pos))
      ⟨_, s.backticks, s.backticksScanned, rfl⟩ fun _ => by omega
  rw [if_neg h2]
  cases hsc : btScan s.src s.posMax (pos - s.pos) (s.src.length - pos + 1) pos s.backticks with
  | mk res bt =>
    cases res with
    | none =>
      exact .quiet { s with pending := if silent then s.pending else s.pending ++ (s.src.take pos).drop s.pos, backticks := bt, backticksScanned := true }
        (s.pos + (pos - s.pos)) ⟨_, _, _, rfl⟩ fun _ => by omega
    | some p =>
      obtain ⟨ms, me⟩ := p
      have hme : pos < me := btScan_some _ _ _ _ _ _ _ _ _ hsc
      simp only
      cases silent with
      | true => exact .quiet _ me ⟨s.pending, bt, s.backticksScanned, rfl⟩ fun _ => by omega
      | false =>
        exact .push _ (.plain "code_inline" "code" _ _ "") me _ ⟨s.pending, bt, s.backticksScanned, rfl⟩ (fun _ => by omega)
          ⟨bt, ms, me, h0, hpos ▸ hsc, hpos ▸ rfl⟩ rfl

theorem iok_backticks : IRuleOK2 ruleBackticks := leaf_backticks.iok

/-- which of the optional inline rules are enabled (`text` always is: "supported" configurations) -/
structure IMiniCfg where
  newline : Bool
  escape : Bool
  backticks : Bool
deriving Repr, DecidableEq

/-- `ruler.getRules("")` of the inline parser restricted to the modelled rules, in registration order -/
def iminiChain (c : IMiniCfg) : List IRule :=
  [ruleText] ++ (if c.newline then [ruleNewline] else []) ++ (if c.escape then [ruleEscape] else [])
    ++ (if c.backticks then [ruleBackticks] else [])

theorem iminiChain_forall {P : IRule → Prop} {c : IMiniCfg} (ht : P ruleText) (hn : c.newline = true → P ruleNewline)
    (he : c.escape = true → P ruleEscape) (hb : c.backticks = true → P ruleBackticks) : ∀ r ∈ iminiChain c, P r := by
  simp only [iminiChain, List.forall_mem_append, forall_mem_opt, List.forall_mem_singleton]
  exact ⟨⟨⟨ht, hn⟩, he⟩, hb⟩

theorem iminiChain_ok (c : IMiniCfg) : ∀ r ∈ iminiChain c, IRuleOK2 r :=
  iminiChain_forall iok_text (fun _ => iok_newline) (fun _ => iok_escape) (fun _ => iok_backticks)

/-- **C01.imini_total** — for every source text, every subset of the inline rules `newline`, `escape`, `backticks` (after `text`), every
`maxNesting`, with or without `fragments_join`: the modelled inline parse (tokenize loop, pending flush, `fragments_join`) returns a
token list: no `IndexError`, no endless loop — the closer search of the backtick rule and its cache included -/
theorem imini_total (c : IMiniCfg) (fragJoin : Bool) (maxNesting : Int) (src : List Char) :
    ∃ ts, inlineParse (iminiChain c) [] fragJoin maxNesting src = .ok ts :=
  inlineParse_total (iminiChain_ok c) _ _ _ _

/-! non-vacuity: code spans with different run lengths, an unmatched run, an escaped backtick, a hard break -/
def itypesOf (r : Except PyErr (List Tok)) : Option (List String) :=
  match r with
  | .ok ts => some (ts.map Tok.type)
  | .error _ => none

example : itypesOf (inlineParse (iminiChain ⟨true, true, true⟩) [] true 20 "a `b` ``c ` d`` \\` e ``` f  \ng".toList)
    = some ["text", "code_inline", "text", "code_inline", "text", "text_special", "text", "hardbreak", "text"] := by decide +kernel

end MdIt.C01
