import MdIt.Props.C10g
import MdIt.Props.C04
import MdIt.Props.C10e
import MdIt.Props.C02f
/-!
# C04 (continued) — with raw HTML off, no raw-HTML token anywhere in the output of a whole parse, and no raw piece in its rendering

The renderer writes the content of an `html_block` / `html_inline` token verbatim (`C04.no_raw` is about streams without such tokens);
the parser side of "html off ⇒ nothing raw reaches the output" is that no such token is produced.  Every token of the whole parse, at
every depth, has a type of the vocabulary of the enabled rules (`C10.full_provenance`, `C10.fullT_provenance`), and with `html` off
no vocabulary holds a raw-HTML type.  So `full_no_html` and, with the `table` rule, `fullT_no_html`: with the `inline` core rule on,
whatever rules are enabled, the output of `MarkdownIt.parse` on the modelled sub-language holds no `html_block` token and, below its
`inline` tokens at every depth of nested image descriptions (table cells included), no `html_inline` token.  `xmini_no_html` says so
for the inline sub-parser of `C01.xmini_total` alone, the `html_inline` rule switched on or not.  (Whole documents with tables are
compared token for token by the `fullparset` tie, which the check of C18 runs among others.)
-/
namespace MdIt.C04
open MdIt.C01 MdIt.C05 MdIt.C10

theorem mAllowed_no_html (bc : MCfg) (hoffb : bc.html = false) {ty : String} (h : ty ∈ mAllowed bc) :
    ty ≠ "html_block" ∧ ty ≠ "html_inline" := by
  constructor <;> rintro rfl <;> simp [mAllowed, lAllowed, qAllowed, allowedTypes, hoffb] at h

theorem inlineAllowed_no_html (ic : ICfg) {ty : String} (h : ty ∈ inlineAllowed false ic) : ty ≠ "html_inline" ∧ ty ≠ "html_block" := by
  constructor <;> rintro rfl <;> simp [inlineAllowed, mem_emphTypes, emTypes, sTypes] at h

theorem full_no_html (cls : QCls) (ext : IExt) (lx : LExt) (bc : MCfg) (ic : ICfg) (hon : ic.inlineOn = true)
    (hoff : ext.html = false) (hoffb : bc.html = false)
    (ws : List Nat) (mn : Int) (d : Nat) (src : List Char) (ts : List Tok) (h : fullParse cls ext lx bc ic ws mn d src = .ok ts) :
    ∀ t ∈ ts, t.type ≠ "html_block" ∧ t.type ≠ "html_inline"
      ∧ (t.type = "inline" → ∀ x ∈ descOpt t.children, x.type ≠ "html_inline" ∧ x.type ≠ "html_block") := by
  intro t ht
  obtain ⟨hA, hD⟩ := full_provenance cls ext lx bc ic hon ws mn d src ts h t ht
  exact ⟨(mAllowed_no_html bc hoffb hA).1, (mAllowed_no_html bc hoffb hA).2, fun hty x hx => inlineAllowed_no_html ic (hoff ▸ hD hty x hx)⟩

theorem mem_descList_self (x : Tok) (cs : List Tok) (h : x ∈ cs) : x ∈ descList cs :=
  (mem_descList x cs).2 ⟨x, h, .inl rfl⟩

theorem visible_no_html (ts : List Tok)
    (hT : ∀ t ∈ ts, t.type ≠ "html_block" ∧ t.type ≠ "html_inline"
      ∧ (t.type = "inline" → ∀ x ∈ descOpt t.children, x.type ≠ "html_inline" ∧ x.type ≠ "html_block")) :
    ∀ t ∈ visible ts, (t.type == "html_block" || t.type == "html_inline") = false := by
  induction ts with
  | nil => intro t ht; cases ht
  | cons u rest ih =>
    intro t ht
    simp only [visible, List.mem_append] at ht
    rcases ht with ht | ht
    · have hu := hT u List.mem_cons_self
      split at ht
      · rename_i hinl
        cases hc : u.children with
        | none => rw [hc] at ht; cases ht
        | some cs =>
          rw [hc] at ht
          have := hu.2.2 (by simpa using hinl) t (by rw [hc]; exact mem_descList_self t cs ht)
          simp [this.1, this.2]
      · simp only [List.mem_singleton] at ht
        subst ht
        simp [hu.1, hu.2.1]
    · exact ih (fun v hv => hT v (List.mem_cons_of_mem _ hv)) t ht

/-- **C04.full_render_no_raw** — `MarkdownIt.render` end to end on the modelled sub-language with the `html` option off and the
`inline` core rule on: whatever rules are enabled, no piece of the rendered output is raw pass-through — every character of the HTML is either the renderer's own
markup (tag and attribute names from the fixed vocabulary, `C04.vocab`) or input text that went through `escapeHtml`
(`escapeHtml_no_meta`). -/
theorem full_render_no_raw (cls : QCls) (ext : IExt) (lx : LExt) (bc : MCfg) (ic : ICfg) (hon : ic.inlineOn = true)
    (hoff : ext.html = false) (hoffb : bc.html = false) (ws : List Nat) (mn : Int) (d : Nat) (src : List Char) (ts : List Tok)
    (h : fullParse cls ext lx bc ic ws mn d src = .ok ts) (x : Ext) (o : ROpts) (ps : List Piece) (hr : renderP x o none ts = .ok ps) :
    ∀ p ∈ ps, isRaw p = false :=
  no_raw x o ts ps (visible_no_html ts (full_no_html cls ext lx bc ic hon hoff hoffb ws mn d src ts h)) hr

theorem tAllowed_no_html (tc : TCfg) (hoffb : tc.html = false) {ty : String} (h : ty ∈ tAllowed tc) :
    ty ≠ "html_block" ∧ ty ≠ "html_inline" := by
  rw [tAllowed, List.mem_append, List.mem_ite_nil_right] at h
  rcases h with h | ⟨_, h⟩
  · exact mAllowed_no_html tc.toMCfg hoffb h
  · constructor <;> rintro rfl <;> simp [tableTypes] at h

theorem fullT_no_html (cls : QCls) (ext : IExt) (lx : LExt) (tc : TCfg) (hnr : tc.reference = false) (ic : ICfg) (hon : ic.inlineOn = true)
    (hoff : ext.html = false) (hoffb : tc.html = false)
    (ws : List Nat) (mn : Int) (d : Nat) (src : List Char) (ts : List Tok) (refs dups)
    (h : fullParseT cls ext lx tc ic ws mn d src = .ok (ts, refs, dups)) :
    ∀ t ∈ ts, t.type ≠ "html_block" ∧ t.type ≠ "html_inline"
      ∧ (t.type = "inline" → ∀ x ∈ descOpt t.children, x.type ≠ "html_inline" ∧ x.type ≠ "html_block") := by
  intro t ht
  obtain ⟨hA, hD⟩ := fullT_provenance cls ext lx tc hnr ic hon ws mn d src ts refs dups h t ht
  exact ⟨(tAllowed_no_html tc hoffb hA).1, (tAllowed_no_html tc hoffb hA).2, fun hty x hx => inlineAllowed_no_html ic (hoff ▸ hD hty x hx)⟩

/-- **C04.fullT_render_no_raw** — `full_render_no_raw` with the `table` rule: `MarkdownIt.render` on documents with tables emits no
raw pass-through piece.  (The renderer model's vocabulary holds the table tags and the `style` attribute: T1 `table_tags` / `table_keys`.) -/
theorem fullT_render_no_raw (cls : QCls) (ext : IExt) (lx : LExt) (tc : TCfg) (hnr : tc.reference = false) (ic : ICfg) (hon : ic.inlineOn = true)
    (hoff : ext.html = false) (hoffb : tc.html = false) (ws : List Nat) (mn : Int) (d : Nat) (src : List Char) (ts : List Tok) (refs dups)
    (h : fullParseT cls ext lx tc ic ws mn d src = .ok (ts, refs, dups)) (x : Ext) (o : ROpts) (ps : List Piece) (hr : renderP x o none ts = .ok ps) :
    ∀ p ∈ ps, isRaw p = false :=
  no_raw x o ts ps (visible_no_html ts (fullT_no_html cls ext lx tc hnr ic hon hoff hoffb ws mn d src ts refs dups h)) hr

theorem xmini_no_html (cls : QCls) (ext : IExt) (hoff : ext.html = false) (c : IMiniCfg)
    (strike emphasis autolink htmlInline entity fragJoin : Bool) (mn : Int) (src : List Char) (ts : List Tok)
    (h : inlineParse (xminiChain cls ext c strike emphasis autolink htmlInline entity) (sminiPost strike emphasis) fragJoin mn src = .ok ts) :
    ∀ t ∈ ts, t.type ≠ "html_inline" := by
  intro t ht
  exact (xmini_switches ext c strike emphasis autolink htmlInline entity cls fragJoin mn src ts h t ht).2.2.2.2.1 (by simp [hoff])

/-- the hypothesis matters: with the option on the same source yields a raw-HTML token -/
example : C01.itypesOf (inlineParse (xminiChain C02f.asciiCls { entity := fun _ => none, reformat := id, normText := id, html := true }
      ⟨true, true, true⟩ false true true true true) (sminiPost false true) true 20 "a <b> c".toList)
    = some ["text", "html_inline", "text"] := by decide +kernel
example : C01.itypesOf (inlineParse (xminiChain C02f.asciiCls { entity := fun _ => none, reformat := id, normText := id, html := false }
      ⟨true, true, true⟩ false true true true true) (sminiPost false true) true 20 "a <b> c".toList)
    = some ["text"] := by decide +kernel

end MdIt.C04
