import MdIt.Props.C17
import MdIt.Props.C01
/-!
# C06 — CommonMark container laws: quoting or list-indenting a document nests its blocks

The two lemmas DESIGN.md lists for C06 as A and D. (A) `quote_strip` is about `quoteOffsets` (MdIt/Str.lean), the stand-alone
transcription of the block-quote rule's marker arithmetic, not about the modelled rule `ruleBlockquote`. (D) `nested_loop_frame`:
the nested loop restores the frame.  The law itself is `quote_law` (`Props/C06c`) and, with lists, `l_quote_law` (`Props/C06i`);
for the rules outside the modelled sub-parser it is decided by the oracle.
-/
namespace MdIt.C06

def spaces (n : Nat) : List Char := List.replicate n ' '

/-- **C06.quote_strip** (A) — for a tab-free body starting with `k` spaces and then a non-blank
character, the line `"> " ++ body` (marker at column `sc`, at any nesting, inherited offset `bs`) is
given by `quoteOffsets` the indent `k` — the indent `body` has as a line of its own — with
`2 + k` characters consumed; the inherited offset of the stripped line is `bs + sc + 2`. -/
theorem quote_strip (bs sc k : Nat) (c : Char) (hc : c ≠ ' ' ∧ c ≠ '\t') (tail : List Char) :
    let body := spaces k ++ c :: tail
    (quoteOffsets true bs sc (' ' :: body)).sCount = (lineSCount body : Int)
    ∧ (quoteOffsets true bs sc (' ' :: body)).tShiftEnd = 1 + k
    ∧ (quoteOffsets true bs sc (' ' :: body)).bsCount = bs + sc + 2 := by
  intro body
  have hsp : ∀ x ∈ spaces k, x = ' ' ∨ x = '\t' := fun x hx => .inl (List.eq_of_mem_replicate hx)
  have hb : C17.blanks (' ' :: body) = ' ' :: spaces k :=
    C17.blanks_append (ws := ' ' :: spaces k) (fun x hx => (List.mem_cons.1 hx).elim .inl (hsp x)) hc tail
  have hbody : lineSCount body = k := by
    rw [lineSCount, show body.takeWhile _ = C17.blanks body from rfl, C17.blanks_append hsp hc tail, spaces, C17.colAfter_spaces]
    exact Nat.zero_add k
  rw [C17.quoteOffsets_eq, hb, if_neg (List.cons_ne_nil _ _), hbody, colAfter, if_neg (by decide), spaces, C17.colAfter_spaces]
  exact ⟨by show ((bs + sc + 1 + 1 + k : Nat) : Int) - _ = _; omega, by show (spaces k).length + 1 = _; rw [spaces, List.length_replicate]; omega, rfl⟩

/-- **C06.nested_loop_frame** (D) — the nested block loop a container runs hands back the line tables, `lineMax`,
`blkIndent` and `level` it was given (so the container's own restore code sees what it saved) -/
theorem nested_loop_frame (P : BState → Nat → Prop) (hP : FrameClosed P) (rules : List BRule) (hok : ∀ r ∈ rules, RuleOK P r)
    (hlast : ∃ r ∈ rules, AlwaysMatches P r)
    (maxNesting : Int) (s : BState) (startLine endLine : Nat) (hlen : s.lineMax + 1 ≤ s.lines.length)
    (hend : endLine ≤ s.lineMax) (hPs : P s endLine) :
    ∃ s', blockTokenize rules maxNesting s startLine endLine = .ok s' ∧ s.FrameEq s' :=
  C01.block_tokenize_total P hP rules hok hlast maxNesting s startLine endLine hlen hend hPs

example : (quoteOffsets true 0 0 "   x".toList).sCount = 2 ∧ lineSCount "  x".toList = 2 := by decide

end MdIt.C06
