import MdIt.Props.C09b
import MdIt.InlineImage
/-!
# C09 (continued) — backslash-escaping makes any text literal, for the full inline sub-parser

`inline_literal` instantiated with the eleven-rule chain `imgChain` (every subset that keeps `text` and `escape`) and its real second
chain over all delimiter scopes (`balance_pairs`, both post-processing rules): the literal loop never records a delimiter nor opens a
scope (`loop_literal` says so), and on a state without delimiters and closed scopes the three rules of the second chain are
the identity.
-/
namespace MdIt.C09

theorem balancePairsL_id (s : IState) (hd : s.delimiters = []) (hm : s.metas = []) : balancePairsL s = s := by
  have hp : processDelims [] = [] := by decide
  cases s
  simp only at hd hm
  subst hd; subst hm
  simp [balancePairsL, hp]

theorem emphasisPostL_id (s : IState) (hd : s.delimiters = []) (hm : s.metas = []) : emphasisPostL s = s := by
  cases s
  simp only at hd hm
  subst hd; subst hm
  simp [emphasisPostL, metasSorted, emphPostGo]

theorem strikePostL_id (s : IState) (hd : s.delimiters = []) (hm : s.metas = []) : strikePostL s = s := by
  cases s
  simp only at hd hm
  subst hd; subst hm
  simp [strikePostL, metasSorted, strikeMark, strikeSwap]

theorem imgPost_id (strike emphasis : Bool) : ∀ f ∈ imgPost strike emphasis, ∀ s : IState, s.delims = 0 → s.delimiters = [] → s.metas = [] → f s = s := by
  intro f hf s _ hd hm
  simp only [imgPost, linkPost, List.mem_append, List.mem_ite_nil_right, List.mem_singleton] at hf
  rcases hf with (⟨_, rfl⟩ | ⟨_, rfl⟩) | ⟨_, rfl⟩
  · exact balancePairsL_id s hd hm
  · exact strikePostL_id s hd hm
  · exact emphasisPostL_id s hd hm

/-- **C09.imgChain_literal** — for every text `t` without line feed, every other rule switched on or off — emphasis, strikethrough,
backticks, link, image, autolink, raw HTML, entities —, every `maxNesting ≥ 1`, budget, reference table and external functions, the
inline parse of the backslash-escaped spelling of `t`, after `fragments_join` and `text_join`, is exactly one `text` token holding `t`. -/
theorem imgChain_literal (cls : QCls) (ext : IExt) (lx : LExt) (newline backticks strike emphasis link image autolink htmlInline entity : Bool)
    (mn : Int) (hmn : 1 ≤ mn) (d : Nat) (t : List Char) (hlf : '\n' ∉ t) (hne : t ≠ []) :
    ∃ ts tk, inlineParse (imgChain cls ext lx true newline true backticks strike emphasis link image autolink htmlInline entity true mn (d + 1))
        (imgPost strike emphasis) true mn (escapeAll t) = .ok ts
      ∧ joinToks [] ts = [tk] ∧ tk.type = "text" ∧ tk.content.toList = t := by
  obtain ⟨mid, post, hmid, hch⟩ : ∃ mid post, (∀ m ∈ mid, DeclinesAtBackslash m) ∧
      imgChain cls ext lx true newline true backticks strike emphasis link image autolink htmlInline entity true mn (d + 1)
        = ruleText :: (mid ++ ruleEscape :: post) := by
    cases newline with
    | true => exact ⟨[ruleNewline], _, fun m hm => by rw [List.mem_singleton.1 hm]; exact newline_declines, rfl⟩
    | false => exact ⟨[], _, fun _ hm => (nomatch hm), rfl⟩
  rw [hch]
  obtain ⟨ts, tk, h1, h2, h3, h4, _⟩ := inline_literal mid post hmid (imgPost strike emphasis) (imgPost_id strike emphasis) mn hmn t hlf hne
  exact ⟨ts, tk, h1, h2, h3, h4⟩

/-! non-vacuity: a text made of exactly the characters that would otherwise open emphasis, code, links, images, autolinks, entities -/
example : (match inlineParse (imgChain ⟨fun c => (33 ≤ c && c ≤ 47) || (58 ≤ c && c ≤ 64) || (91 ≤ c && c ≤ 96) || (123 ≤ c && c ≤ 126),
        fun c => c == 32 || c == 9 || c == 10⟩ { entity := fun _ => none, reformat := id, normText := id, html := true }
        { hasRefs := false, normRef := id, storeLabels := false, refs := fun _ => none }
        true true true true true true true true true true true true 20 5) (imgPost true true) true 20 (escapeAll "*a* `b` [c](d) ![e](f) <g:h> &amp; ~~i~~".toList) with
      | .ok ts => some ((joinToks [] ts).map (fun t => (t.type, t.content))) | .error _ => none)
    = some [("text", "*a* `b` [c](d) ![e](f) <g:h> &amp; ~~i~~")] := by decide +kernel

end MdIt.C09
