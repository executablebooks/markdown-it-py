import MdIt.Str
import MdIt.Inline
/-!
# C09 — backslash-escaping makes any text literal in every inline context
-/
namespace MdIt.C09

/-- **T1 obligation** — every ASCII punctuation character is escapable by the inline `escape`
rule (`_ESCAPED`), by `unescapeAll` (titles, destinations, info strings) and counts as Markdown
punctuation. -/
theorem punct_tables : ∀ n : Nat, n < 128 → isAsciiPunct (Char.ofNat n) = true →
    Gen.escaped.contains n = true ∧ Gen.unescapable.contains n = true ∧ Gen.mdAsciiPunct.contains n = true := by
  decide +kernel

/-- **T1 obligation** — every terminator of the `text` rule other than LF is ASCII punctuation. -/
theorem terminators_punct : ∀ n ∈ Gen.terminatorChars, n = 10 ∨ isAsciiPunct (Char.ofNat n) = true := by decide +kernel

/-- **T1 obligation** — backslash is a terminator (so the `escape` rule gets to see every backslash), and so is `&`. -/
theorem backslash_terminates : Gen.terminatorChars.contains 92 = true ∧ Gen.terminatorChars.contains 38 = true := by decide +kernel

theorem punct_lt (c : Char) (h : isAsciiPunct c = true) : c.toNat < 128 := by
  unfold isAsciiPunct at h
  simp only [Bool.or_eq_true, Bool.and_eq_true, decide_eq_true_eq] at h
  omega

theorem punct_mem (c : Char) (h : isAsciiPunct c = true) :
    Gen.escaped.contains c.toNat = true ∧ Gen.unescapable.contains c.toNat = true ∧ Gen.mdAsciiPunct.contains c.toNat = true :=
  punct_tables c.toNat (punct_lt c h) (by simpa [Char.ofNat_toNat] using h)

theorem not_punct_not_special (c : Char) (h : isAsciiPunct c = false) : c ≠ '\\' ∧ c ≠ '&' := by
  constructor <;> (intro e; subst e; revert h; decide)

theorem unescapeAllFuel_escapeAll (ent : List Char → List Char → List Char) (t : List Char) (fuel : Nat)
    (hf : (escapeAll t).length < fuel) : unescapeAllFuel ent fuel (escapeAll t) = t := by
  induction t generalizing fuel with
  | nil => cases fuel <;> simp [escapeAll, unescapeAllFuel]
  | cons c rest ih =>
    cases fuel with
    | zero => simp at hf
    | succ f =>
      by_cases hp : isAsciiPunct c = true
      · have he : escapeAll (c :: rest) = '\\' :: c :: escapeAll rest := by simp [escapeAll, hp]
        rw [he] at hf ⊢
        simp only [unescapeAllFuel, if_true, (punct_mem c hp).2.1]
        rw [ih f (by simp at hf; omega)]
      · have hp' : isAsciiPunct c = false := by simpa using hp
        have he : escapeAll (c :: rest) = c :: escapeAll rest := by simp [escapeAll, hp']
        rw [he] at hf ⊢
        have := not_punct_not_special c hp'
        simp only [unescapeAllFuel, this.1, this.2, if_false]
        rw [ih f (by simp at hf; omega)]

/-- **C09.unescape_escape** (title, dest) — link titles, destinations and fence info strings are unescaped with
`unescapeAll`: for every text `t` (any scalar values, blanks at the ends included) and whatever the
entity table says, un-escaping the backslash-escaped spelling gives back exactly `t`. -/
theorem unescape_escape (ent : List Char → List Char → List Char) (t : List Char) :
    unescapeAll ent (escapeAll t) = t :=
  unescapeAllFuel_escapeAll ent t _ (Nat.lt_succ_self _)

theorem escape_punct (s : IState) (c : Char) (hc : isAsciiPunct c = true)
    (h0 : s.src[s.pos]? = some '\\') (h1 : s.src[s.pos + 1]? = some c) (hmax : s.pos + 1 < s.posMax) :
    ruleEscape s false = .ok (true,
      { (s.push "text_special" "" 0 (String.singleton c) (String.ofList ['\\', c]) "escape") with pos := s.pos + 2 }) := by
  have hne : c ≠ '\n' := by intro e; subst e; revert hc; decide
  have hnb : ¬ (s.pos + 1 ≥ s.posMax) := by omega
  have hesc := (punct_mem c hc).1
  simp only [ruleEscape, h0, h1, hnb, if_false, bne_self_eq_false, Bool.false_eq_true, hesc, if_true]
  have h2 : (c != '\n') = true := by simpa using hne
  have h3 : (c == '\n') = false := by simpa using hne
  simp [h3]

theorem text_declines_at_backslash (s : IState) (h0 : s.src[s.pos]? = some '\\') : ruleText s false = .ok (false, s) := by
  have hpos : s.pos < s.src.length := (List.getElem?_eq_some_iff.1 h0).1
  have hdrop : s.src.drop s.pos = '\\' :: s.src.drop (s.pos + 1) := by
    rw [List.drop_eq_getElem_cons hpos]
    congr 1
    have := List.getElem?_eq_getElem hpos
    rw [h0] at this; exact (Option.some.inj this).symm
  have hend : textEnd s = s.pos := by
    unfold textEnd
    rw [hdrop, List.findIdx?_cons]
    have : isTerminator '\\' = true := by decide
    simp [this]
  simp [ruleText, hend]

theorem newline_declines_at_backslash (s : IState) (h0 : s.src[s.pos]? = some '\\') :
    ruleNewline s false = .ok (false, s) := by
  simp [ruleNewline, h0]

/-! non-vacuity -/
example : escapeAll "a*b_c".toList = "a\\*b\\_c".toList := by decide +kernel
example : unescapeAll (fun _ w => w) "a\\*b &amp; \\q".toList = "a*b &amp; \\q".toList := by decide +kernel

end MdIt.C09
