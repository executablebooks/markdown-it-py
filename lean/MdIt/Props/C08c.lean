import MdIt.Props.C08b
import MdIt.Props.C02d
/-!
# C08 (continued) — verbatim content and recorded markup through containers

Inside a block quote or a list item the nested run sees line entries whose text is the source line minus a prefix (`SufLines`:
the quote rule drops `>` and the blank after it, the list rule only moves `tShift`).  So what `VerbX` says of the `getLines` cuts is
said again with *suffixes* of the lines (`VerbSufTok`, `HtmlSuf`: nothing added, dropped or altered after the removed prefix; together
with the heading markup `VerbM`), a form that follows from `VerbX` (`verbX_to_m`), passes through the containers (`verbM_wrap`,
`verbM_listWrap`) and so holds relative to the line table of the normalised *source*.  `l_verbatim` is its first component for the
chain without `html_block` and `lheading`.
-/
namespace MdIt.C08
open MdIt.C01 MdIt.C02

/-- `x` is nothing, or pad spaces followed by a suffix of line `i` (with or without its line feed) -/
def PieceOf (lines : List BLine) (i : Nat) (x : List Char) : Prop :=
  x = [] ∨ ∃ (l : BLine) (pad rest : List Char), lines[i]? = some l ∧ x = pad ++ rest ∧ (∀ c ∈ pad, c = ' ')
    ∧ (rest <:+ l.text ∨ rest <:+ l.text ++ ['\n'])

def VerbSufTok (lines : List BLine) (t : Tok) : Prop :=
  (t.type = "code_block" → ∃ (a b : Nat) (ps : List (List Char)), t.map = some (a, b) ∧ t.content.toList = ps.flatten ++ ['\n']
      ∧ ps.length = b - a ∧ ∀ j (h : j < ps.length), PieceOf lines (a + j) ps[j])
  ∧ (t.type = "fence" → ∃ (a b e : Nat) (ps : List (List Char)) (l : BLine), t.map = some (a, b) ∧ (b = e ∨ b = e + 1)
      ∧ t.content.toList = ps.flatten ∧ ps.length = e - (a + 1) ∧ (∀ j (h : j < ps.length), PieceOf lines (a + 1 + j) ps[j])
      ∧ lines[a]? = some l ∧ (t.markup.toList ++ t.info.toList) <:+ l.text)
  ∧ (t.type = "hr" → ∃ (a : Nat) (l : BLine) (body : List Char), t.map = some (a, a + 1) ∧ lines[a]? = some l ∧ body <:+ l.text
      ∧ hrMarkup body = some t.markup.toList)

def HtmlSuf (lines : List BLine) (t : Tok) : Prop :=
  t.type = "html_block" → ∃ (a b : Nat) (ps : List (List Char)), t.map = some (a, b) ∧ t.content.toList = ps.flatten
    ∧ ps.length = b - a ∧ ∀ j (h : j < ps.length), PieceOf lines (a + j) ps[j]

def VerbM (lines : List BLine) (t : Tok) : Prop := VerbSufTok lines t ∧ HtmlSuf lines t ∧ HeadMk t

abbrev VerbMS : BState → List Tok → Prop := Toks VerbM

theorem pieceOf_suf {a b : List BLine} (h : SufLines a b) (i : Nat) (x : List Char) (hp : PieceOf b i x) : PieceOf a i x := by
  rcases hp with rfl | ⟨lb, pad, rest, hb, hx, hpad, hr⟩
  · exact .inl rfl
  · obtain ⟨la, ha, hs, _⟩ := h.2 i lb hb
    refine .inr ⟨la, pad, rest, ha, hx, hpad, ?_⟩
    rcases hr with hr | hr
    · exact .inl (List.IsSuffix.trans hr hs)
    · exact .inr (List.IsSuffix.trans hr (List.suffix_append_self_iff.mpr hs))

theorem verbM_suf {a b : List BLine} (h : SufLines a b) (t : Tok) (hv : VerbM b t) : VerbM a t := by
  have hp : ∀ {x : Nat} {ps : List (List Char)}, (∀ j (hj : j < ps.length), PieceOf b (x + j) ps[j]) →
      ∀ j (hj : j < ps.length), PieceOf a (x + j) ps[j] := fun h4 j hj => pieceOf_suf h _ _ (h4 j hj)
  refine ⟨⟨?_, ?_, ?_⟩, ?_, hv.2.2⟩
  · intro ht
    obtain ⟨x, y, ps, h1, h2, h3, h4⟩ := hv.1.1 ht
    exact ⟨x, y, ps, h1, h2, h3, hp h4⟩
  · intro ht
    obtain ⟨x, y, e, ps, l, h1, h2, h3, h4, h5, h6, h7⟩ := hv.1.2.1 ht
    obtain ⟨la, ha, hs, _⟩ := h.2 x l h6
    exact ⟨x, y, e, ps, la, h1, h2, h3, h4, hp h5, ha, List.IsSuffix.trans h7 hs⟩
  · intro ht
    obtain ⟨x, l, body, h1, h2, h3, h4⟩ := hv.1.2.2 ht
    obtain ⟨la, ha, hs, _⟩ := h.2 x l h2
    exact ⟨x, la, body, h1, ha, List.IsSuffix.trans h3 hs, h4⟩
  · intro ht
    obtain ⟨x, y, ps, h1, h2, h3, h4⟩ := hv.2.1 ht
    exact ⟨x, y, ps, h1, h2, h3, hp h4⟩

theorem verbM_hid (lines : List BLine) {t u : Tok} (h : t.setHidden false = u.setHidden false) (hv : VerbM lines u) : VerbM lines t := by
  obtain ⟨_, _, e1, e2, e3, e4, e5⟩ := hidden_eq_fields h
  unfold VerbM VerbSufTok HtmlSuf HeadMk at *
  rw [e1, e2, e3, e4, e5]; exact hv

theorem verbM_other (lines : List BLine) (t : Tok) (h : t.type ∉ verbTypes) : VerbM lines t := by
  refine ⟨⟨?_, ?_, ?_⟩, ?_, ?_⟩ <;> (intro e; rw [e] at h; exact absurd h (by decide))

theorem verbM_wrap : QuoteWrap VerbMS :=
  quoteWrap_tokens VerbM (fun _ _ t h => verbM_suf h t) fun _ t h => verbM_other _ _ (by rcases h with h | h <;> rw [h] <;> decide)

theorem verbM_listWrap : ListWrap VerbMS :=
  listWrap_tokens VerbM (fun _ _ t h => verbM_suf h t) (fun lines _ _ he => verbM_hid lines he) fun _ t h => verbM_other _ _ (by
    simp only [List.mem_cons, List.not_mem_nil, or_false] at h
    rcases h with h | h | h | h | h | h <;> rw [h] <;> decide)

theorem cutLineI_piece (chars : List Char) (tShift bs : Nat) (indent : Int) :
    ∃ pad rest, cutLineI chars tShift bs indent = pad ++ rest ∧ (∀ c ∈ pad, c = ' ') ∧ rest <:+ chars := by
  unfold cutLineI
  split
  · exact ⟨_, chars, rfl, fun c hc => by simpa using (List.mem_replicate.1 hc).2, List.suffix_refl _⟩
  · obtain ⟨removed, rest, pad, h1, h2, _, n, hn, _⟩ := cutLine_spec chars tShift bs indent.toNat
    exact ⟨pad, rest, h2, fun c hc => by rw [hn] at hc; exact (List.mem_replicate.1 hc).2, ⟨removed, h1.symm⟩⟩

theorem cutOf_piece (s : BState) (end_ : Nat) (keep : Bool) (indent : Int) (i : Nat) : PieceOf s.lines i (cutOf s end_ keep indent i) := by
  unfold cutOf
  cases hl : s.lines[i]? with
  | none => exact .inl rfl
  | some l =>
    obtain ⟨pad, rest, h1, h2, h3⟩ := cutLineI_piece (lineChars s end_ keep i) l.tShift l.bs indent
    refine .inr ⟨l, pad, rest, hl, h1, h2, ?_⟩
    have : lineChars s end_ keep i = l.text ++ (if (decide (i + 1 < end_) || keep) && l.hasLF then ['\n'] else []) := by
      simp [lineChars, hl]
    rw [this] at h3
    split at h3
    · exact .inr h3
    · exact .inl (by simpa using h3)

/-- the `getLines` cuts of `n` lines from `a` on, as pieces of those lines -/
theorem cuts_pieces (s : BState) (end_ : Nat) (keep : Bool) (indent : Int) (a n : Nat) :
    ((List.range' a n).map (cutOf s end_ keep indent)).length = n
      ∧ ∀ j (h : j < ((List.range' a n).map (cutOf s end_ keep indent)).length),
          PieceOf s.lines (a + j) ((List.range' a n).map (cutOf s end_ keep indent))[j] := by
  refine ⟨by simp, fun j hj => ?_⟩
  simp only [List.getElem_map, List.getElem_range', Nat.one_mul]
  exact cutOf_piece s end_ keep _ _

/-- what a leaf rule says relative to its own state, said relative to that state's line table alone: exact cuts become pieces, the
    body of a line a suffix of its text -/
theorem verbX_to_m (s : BState) (t : Tok) (h : VerbX s t) : VerbM s.lines t := by
  refine ⟨⟨?_, ?_, ?_⟩, ?_, h.2.2⟩
  · intro ht
    obtain ⟨a, b, hm, hc⟩ := h.1.1 ht
    exact ⟨a, b, _, hm, hc, (cuts_pieces ..).1, (cuts_pieces ..).2⟩
  · intro ht
    obtain ⟨a, b, e, l, hm, hbe, hl, hc, hmk, _⟩ := h.1.2.1 ht
    exact ⟨a, b, e, _, l, hm, hbe, hc, (cuts_pieces ..).1, (cuts_pieces ..).2, hl, hmk ▸ List.drop_suffix _ _⟩
  · intro ht
    obtain ⟨a, l, hm, hl, hk⟩ := h.1.2.2 ht
    exact ⟨a, l, l.body, hm, hl, List.drop_suffix _ _, hk⟩
  · intro ht
    obtain ⟨a, b, hm, hc⟩ := h.2.1 ht
    exact ⟨a, b, _, hm, hc, (cuts_pieces ..).1, (cuts_pieces ..).2⟩

theorem verbM_of_seg {P r} (h : SegOK P VerbSeg r) : SegOK P VerbMS r :=
  h.mono fun s _ h2 t ht => verbX_to_m s t (h2 t ht)

theorem verbM_lLeaves (c : MiniCfg) (ws : List Nat) (mn : Int) (P : BState → Nat → Prop) :
    ∀ r ∈ lLeaves c ws mn, SegOK P VerbMS r := fun r h =>
  verbM_of_seg (verbOK_leaves P c (inertE_of_inert (lTerminators_inert c ws mn)) ws r h)

/-- **C08.l_verbatim** — with block quotes and lists nested in each other to any depth: every `code_block`, `fence` and `hr`
token of the parse holds, line for line, the lines its map points to in the normalised source with only a prefix removed (the
container prefix and indentation; at most pad spaces put in front); fence markup + info is the tail of its opening line; the
thematic-break markup is what the marker scan reads off the tail of its line -/
theorem l_verbatim (c : MiniCfg) (ws : List Nat) (maxNesting : Int) (src : List Char) (ts : List Tok)
    (h : lParse c ws maxNesting src = .ok ts) : ∀ t ∈ ts, VerbSufTok (initBState (normalize src)).lines t := by
  obtain ⟨segs, hts, hS⟩ := lParse_segs VerbMS verbM_wrap verbM_listWrap c ws maxNesting (verbM_lLeaves c ws maxNesting) src ts h
  exact fun t ht => (toks_flatten hts hS t ht).1

/-! non-vacuity: a fence inside a quote inside a list item, an indented code block inside a quote, a thematic break inside a list -/
example : C01.typesOf (lParse ⟨true, true, true, true⟩ [32, 9, 10] 20 "- > ```py\n  > x = 1\n  > ```\n\n>     code\n\n1. ***\n".toList)
    = some ["bullet_list_open", "list_item_open", "blockquote_open", "fence", "blockquote_close", "list_item_close", "bullet_list_close",
            "blockquote_open", "code_block", "blockquote_close", "ordered_list_open", "list_item_open", "hr", "list_item_close",
            "ordered_list_close"] := by decide +kernel

end MdIt.C08
