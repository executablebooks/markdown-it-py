import MdIt.Proofs.Pipeline
import MdIt.Props.C08e
import MdIt.Props.C10n
/-!
# C08 (continued) — verbatim content and recorded markup, for the stream `MarkdownIt.parse` returns end to end

Every token of the whole parse is a block token of the block parse with, at most, other `children`; the verbatim facts of
`m_verbatim` speak about `type`, `content`, `markup`, `info` and `map` only, so they hold of the whole stream.  With the `table` rule
in the chain nothing changes: it emits no verbatim token (`C10.mem_tableToks`: only its own vocabulary), so `VerbM` holds of its
segment trivially.
-/
namespace MdIt.C08

theorem full_tokens_of_block (cls : QCls) (ext : IExt) (lx : LExt) (bc : MCfg) (ic : ICfg) (ws : List Nat) (mn : Int) (d : Nat) (src : List Char)
    (ts : List Tok) (h : fullParse cls ext lx bc ic ws mn d src = .ok ts) :
    ∃ bts, mParse bc ws mn src = .ok bts ∧ ∀ t ∈ ts, ∃ b ∈ bts, ∃ c, t = b.setChildren c := by
  obtain ⟨bts, hb, hc⟩ := fullParse_iff.1 h
  exact ⟨bts, hb, coreTail_mem hc⟩

theorem verbM_setChildren (lines : List BLine) (b : Tok) (c : Option (List Tok)) (h : VerbM lines b) : VerbM lines (b.setChildren c) := by
  cases b
  exact h

/-- **C08.full_verbatim** — in the stream `MarkdownIt.parse` returns (modelled sub-language) every `code_block`, `fence`, `hr`,
`html_block` and `heading_open` token satisfies the verbatim facts of `m_verbatim`: content is, line for line, the lines its map points
to with only a prefix removed; fence markup and info come from the opening line; `hr` / heading markup is the scanned run -/
theorem full_verbatim (cls : QCls) (ext : IExt) (lx : LExt) (bc : MCfg) (ic : ICfg) (ws : List Nat) (mn : Int) (d : Nat) (src : List Char)
    (ts : List Tok) (h : fullParse cls ext lx bc ic ws mn d src = .ok ts) : ∀ t ∈ ts, VerbM (initBState (normalize src)).lines t := by
  obtain ⟨bts, hb, hc⟩ := fullParse_iff.1 h
  exact coreTail_forall hc (verbM_setChildren _) (m_verbatim bc ws mn src bts hb)

section
open MdIt.C01 MdIt.C02 MdIt.C10

theorem verbOK_table (P : BState → Nat → Prop) (codeOn : Bool) (terms : List BRule) (hin : ∀ t ∈ terms, SilentInert t) (ws : List Nat) :
    SegOK P VerbSeg (ruleTable codeOn terms ws) :=
  segOK_of_leaf (table_leaf P codeOn terms hin ws) fun _ _ _ _ _ _ ⟨_, _, _, _, _, hn, hseg⟩ t ht => by
    subst hn hseg
    exact verbX_other _ _ ((by decide : ∀ ty ∈ tableTypes, ty ∉ verbTypes) _ (mem_tableToks ht).1.1)

theorem verbM_tLeaves (c : TCfg) (ws : List Nat) (mn : Int) (P : BState → Nat → Prop) :
    ∀ r ∈ tLeaves c ws mn, SegOK P VerbMS r :=
  forall_tLeaves (fun _ => verbM_of_seg (verbOK_table _ _ _ (mTerminators_inert c.toMCfg ws mn) ws))
    (verbM_leavesM P c.toMCfg (tParaTerms_inertE c ws mn) ws)

/-- **C08.t_verbatim** — for the parse with ten of eleven block rules, `table` in the chain and in the terminator chains, every
`code_block`, `fence`, `hr`, `html_block` token holds the lines its map points to with only a prefix removed, and every heading's
markup is a run of `#` or the underline character -/
theorem t_verbatim (ext : IExt) (lx : LExt) (c : TCfg) (hnr : c.reference = false) (ws : List Nat) (maxNesting : Int) (src : List Char)
    (st : BState) (h : tParse ext lx c ws maxNesting src = .ok st) : ∀ t ∈ st.tokens, VerbM (initBState (normalize src)).lines t := by
  obtain ⟨segs, hts, hS⟩ := tParse_segs VerbMS verbM_wrap verbM_listWrap ext lx c hnr ws maxNesting
    (verbM_tLeaves c ws maxNesting) src st h
  exact toks_flatten hts hS

theorem fullT_tokens_of_block (cls : QCls) (ext : IExt) (lx : LExt) (tc : TCfg) (ic : ICfg) (ws : List Nat) (mn : Int) (d : Nat) (src : List Char)
    (ts : List Tok) (refs dups) (h : fullParseT cls ext lx tc ic ws mn d src = .ok (ts, refs, dups)) :
    ∃ st, tParse ext lx tc ws mn src = .ok st ∧ ∀ t ∈ ts, ∃ b ∈ st.tokens, ∃ c, t = b.setChildren c := by
  obtain ⟨st, hb, hc, _⟩ := fullParseT_iff.1 h
  exact ⟨st, hb, coreTail_mem hc⟩

/-- **C08.fullT_verbatim** — the same for the stream `MarkdownIt.parse` returns on documents with tables -/
theorem fullT_verbatim (cls : QCls) (ext : IExt) (lx : LExt) (tc : TCfg) (hnr : tc.reference = false) (ic : ICfg) (ws : List Nat) (mn : Int)
    (d : Nat) (src : List Char) (ts : List Tok) (refs dups) (h : fullParseT cls ext lx tc ic ws mn d src = .ok (ts, refs, dups)) :
    ∀ t ∈ ts, VerbM (initBState (normalize src)).lines t := by
  obtain ⟨st, hb, hc, _⟩ := fullParseT_iff.1 h
  exact coreTail_forall hc (verbM_setChildren _) (t_verbatim ext lx tc hnr ws mn src st hb)

end

end MdIt.C08
