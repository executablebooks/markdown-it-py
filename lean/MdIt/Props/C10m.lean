import MdIt.Props.C01l
/-!
# C10 (continued) — the `table` rule: what it can and cannot do to a parse

As a terminator (silent mode), or declining, the rule hands back the state it was given (no `parentType` left changed, unlike
`lheading` and `reference`).  The rule-level half of "no `|`, no table": the header row is tested for a `|` before anything is pushed.
What a call appends is read off `tableToks` token by token (`TableTokIn`: a type of the table vocabulary, no attribute but a column's
alignment on a cell's opening token, the map inside the table's).
-/
namespace MdIt.C10

theorem table_silent_pure (codeOn : Bool) (terms : List BRule) (ws : List Nat) (s : BState) (line endLine : Nat) (m : Bool) (s' : BState)
    (h : ruleTable codeOn terms ws s line endLine true = .ok (m, s')) : s' = s := by
  revert h
  fun_cases ruleTable codeOn terms ws s line endLine true
  case case5 => contradiction  -- the last branch (the body loop returned, the rule pushes) is not taken in silent mode: `¬true = true`
  all_goals intro h; cases h <;> rfl

theorem table_miss_pure (codeOn : Bool) (terms : List BRule) (ws : List Nat) (s : BState) (line endLine : Nat) (silent : Bool) (s' : BState)
    (h : ruleTable codeOn terms ws s line endLine silent = .ok (false, s')) : s' = s := by
  revert h
  fun_cases ruleTable codeOn terms ws s line endLine silent
  all_goals intro h; cases h <;> rfl

theorem mem_pyStrip {ws : List Nat} {x : List Char} {c : Char} (h : c ∈ pyStrip ws x) : c ∈ x := by
  unfold pyStrip at h
  simp only at h
  have h1 := List.mem_reverse.mp h
  have h2 := (List.dropWhile_sublist _).mem h1
  have h3 := List.mem_reverse.mp h2
  exact (List.dropWhile_sublist _).mem h3

theorem tableHead_pipe {codeOn : Bool} {ws : List Nat} {s : BState} {line endLine : Nat} {p : List String × List (List Char)}
    (h : tableHead codeOn ws s line endLine = .ok (some p)) : ∃ l0, s.lines[line]? = some l0 ∧ '|' ∈ l0.text := by
  obtain ⟨_, _, l0, _, hg0, _, hpipe, _⟩ := C01.tableHead_spec (aligns := p.1) (cols := p.2) h
  exact ⟨l0, here_of_getL hg0, (List.drop_sublist _ _).mem (mem_pyStrip (List.contains_iff_mem.mp hpipe))⟩

/-- **C10.table_inert_without_pipe** — on a start line without `|` the table rule declines and changes nothing (or the line tables
    are too short for the rule to read, which the engine's call context excludes: `C01.ruleOK_table`) -/
theorem table_inert_without_pipe (codeOn : Bool) (terms : List BRule) (ws : List Nat) (s : BState) (line endLine : Nat) (silent : Bool)
    (l0 : BLine) (hl : s.lines[line]? = some l0) (hp : '|' ∉ l0.text) :
    ruleTable codeOn terms ws s line endLine silent = .ok (false, s) ∨ ∃ e, ruleTable codeOn terms ws s line endLine silent = .error e := by
  unfold ruleTable
  cases hh : tableHead codeOn ws s line endLine with
  | error e => exact .inr ⟨e, rfl⟩
  | ok r =>
    cases r with
    | none => exact .inl rfl
    | some p =>
      obtain ⟨l0', hl', hp'⟩ := tableHead_pipe hh
      rw [hl] at hl'; cases hl'
      exact absurd hp' hp

def tableTypes : List String :=
  ["table_open", "thead_open", "tr_open", "th_open", "inline", "th_close", "tr_close", "thead_close", "tbody_open", "td_open", "td_close",
   "tbody_close", "table_close"]

def TableTok (aligns : List String) (t : Tok) : Prop :=
  t.type ∈ tableTypes ∧ (t.attrs = [] ∨ ∃ a ∈ aligns, t.attrs = if a.isEmpty then [] else [("style", AttrVal.s ("text-align:" ++ a))])

def TableTokIn (aligns : List String) (a b : Nat) (t : Tok) : Prop :=
  TableTok aligns t ∧ ∀ x y, t.map = some (x, y) → a ≤ x ∧ x < y ∧ y ≤ b

theorem TableTokIn.mono {aligns : List String} {a b a' b' : Nat} {t : Tok} (h : TableTokIn aligns a b t) (ha : a' ≤ a) (hb : b ≤ b') :
    TableTokIn aligns a' b' t :=
  ⟨h.1, fun x y hm => by have := h.2 x y hm; omega⟩

theorem tokIn_none {aligns : List String} (a b : Nat) (lvl : Int) (ty tag : String) (n : Int) (at_ c d) (hty : ty ∈ tableTypes)
    (hat : at_ = [] ∨ ∃ a ∈ aligns, at_ = if a.isEmpty then [] else [("style", AttrVal.s ("text-align:" ++ a))]) :
    TableTokIn aligns a b (tokAt lvl ty tag n at_ none c d) :=
  ⟨⟨hty, hat⟩, fun _ _ hm => nomatch hm⟩

theorem tokIn_some {aligns : List String} (a b : Nat) (lvl : Int) (ty tag : String) (n : Int) (u v : Nat) (c d) (hty : ty ∈ tableTypes)
    (h1 : a ≤ u) (h2 : u < v) (h3 : v ≤ b) : TableTokIn aligns a b (tokAt lvl ty tag n [] (some (u, v)) c d) :=
  ⟨⟨hty, .inl rfl⟩, fun _ _ hm => by cases hm; exact ⟨h1, h2, h3⟩⟩

theorem mem_cellToks {aligns : List String} (ws : List Nat) (o c tg : String) (ho : o ∈ tableTypes) (hcl : c ∈ tableTypes) (line : Nat)
    (cols : List (List Char)) (lvl : Int) : ∀ (as : List String) (i : Nat), (∀ a ∈ as, a ∈ aligns) →
      ∀ t ∈ cellToks ws o c tg line cols lvl as i, TableTokIn aligns line (line + 1) t := by
  intro as
  induction as with
  | nil => intro i _ t ht; cases ht
  | cons a rest ih =>
    intro i ha t ht
    simp only [cellToks, List.mem_cons] at ht
    rcases ht with rfl | rfl | rfl | ht
    · exact tokIn_none _ _ _ _ _ _ _ _ _ ho (.inr ⟨a, ha a (by simp), rfl⟩)
    · exact tokIn_some _ _ _ _ _ _ _ _ _ _ (by decide) (Nat.le_refl _) (by omega) (Nat.le_refl _)
    · exact tokIn_none _ _ _ _ _ _ _ _ _ hcl (.inl rfl)
    · exact ih _ (fun x hx => ha x (by simp [hx])) t ht

theorem mem_rowToks {aligns : List String} (ws : List Nat) (o c tg : String) (ho : o ∈ tableTypes) (hcl : c ∈ tableTypes) (lvl : Int) (line : Nat)
    (cols : List (List Char)) : ∀ t ∈ rowToks ws o c tg aligns lvl line cols, TableTokIn aligns line (line + 1) t := by
  intro t ht
  simp only [rowToks, List.mem_cons, List.mem_append, List.not_mem_nil, or_false] at ht
  rcases ht with (rfl | ht) | rfl
  · exact tokIn_some _ _ _ _ _ _ _ _ _ _ (by decide) (Nat.le_refl _) (by omega) (Nat.le_refl _)
  · exact mem_cellToks ws o c tg ho hcl line cols _ aligns 0 (fun _ h => h) t ht
  · exact tokIn_none _ _ _ _ _ _ _ _ _ (by decide) (.inl rfl)

theorem mem_rowsToks {aligns : List String} (ws : List Nat) (lvl : Int) : ∀ (rows : List (List (List Char))) (line : Nat),
    ∀ t ∈ rowsToks ws aligns lvl line rows, TableTokIn aligns line (line + rows.length) t := by
  intro rows
  induction rows with
  | nil => intro line t ht; cases ht
  | cons c cs ih =>
    intro line t ht
    rw [List.length_cons]
    rcases List.mem_append.mp ht with h | h
    · exact (mem_rowToks ws _ _ _ (by decide) (by decide) lvl line c t h).mono (Nat.le_refl _) (by omega)
    · exact (ih (line + 1) t h).mono (by omega) (by omega)

theorem mem_tableToks {ws : List Nat} {lvl : Int} {line : Nat} {aligns : List String} {cols : List (List Char)} {rows : List (List (List Char))}
    {t : Tok} (ht : t ∈ tableToks ws lvl line aligns cols rows (line + 2 + rows.length) (line + 2 + rows.length)) :
    TableTokIn aligns line (line + 2 + rows.length) t := by
  simp only [tableToks, headToks, List.mem_cons, List.mem_append, List.not_mem_nil, or_false] at ht
  rcases ht with rfl | (((rfl | ht) | rfl) | ht) | rfl
  · exact tokIn_some _ _ _ _ _ _ _ _ _ _ (by decide) (Nat.le_refl _) (by omega) (Nat.le_refl _)
  · exact tokIn_some _ _ _ _ _ _ _ _ _ _ (by decide) (Nat.le_refl _) (by omega) (by omega)
  · exact (mem_rowToks ws _ _ _ (by decide) (by decide) _ line cols t ht).mono (Nat.le_refl _) (by omega)
  · exact tokIn_none _ _ _ _ _ _ _ _ _ (by decide) (.inl rfl)
  · cases rows with
    | nil => cases ht
    | cons c cs =>
      simp only [bodyToks, List.mem_cons, List.mem_append, List.not_mem_nil, or_false] at ht
      rcases ht with (rfl | ht) | rfl
      · exact tokIn_some _ _ _ _ _ _ _ _ _ _ (by decide) (by omega) (by rw [List.length_cons]; omega) (Nat.le_refl _)
      · exact (mem_rowsToks ws _ _ _ t ht).mono (by omega) (Nat.le_refl _)
      · exact tokIn_none _ _ _ _ _ _ _ _ _ (by decide) (.inl rfl)
  · exact tokIn_none _ _ _ _ _ _ _ _ _ (by decide) (.inl rfl)

theorem table_appAll (codeOn : Bool) (terms : List BRule) (hin : ∀ t ∈ terms, SilentInert t) (ws : List Nat) (s : BState) (line endLine : Nat)
    (hlen : endLine < s.lines.length) (silent m : Bool) (s' : BState) (h : ruleTable codeOn terms ws s line endLine silent = .ok (m, s')) :
    s' = s ∨ ∃ aligns cols seg, tableHead codeOn ws s line endLine = .ok (some (aligns, cols)) ∧ s'.tokens = s.tokens ++ seg ∧
      ∀ t ∈ seg, TableTokIn aligns line s'.line t := by
  cases silent with
  | true => exact .inl (table_silent_pure _ _ _ _ _ _ _ _ h)
  | false =>
    rcases C01.table_run codeOn terms hin ws s line endLine hlen with h' | ⟨aligns, cols, rows, hh, _, h'⟩
    · rw [h'] at h; cases h; exact .inl rfl
    · rw [h'] at h; cases h
      exact .inr ⟨aligns, cols, _, hh, rfl, fun t ht => mem_tableToks ht⟩

def OldOrTable (old : List Tok) (ts : List Tok) : Prop := ∀ t ∈ ts, (∃ u ∈ old, t.type = u.type) ∨ t.type ∈ tableTypes

/-- **C10.table_types** — the type-only reading of `table_appAll`: whatever a call of the table rule leaves in the token list has the type
    of a token that was there before or a type of the table vocabulary (`OldOrTable` compares types only): `table_open … table_close` come
    from this rule, and this rule emits nothing else -/
theorem table_types (codeOn : Bool) (terms : List BRule) (hin : ∀ t ∈ terms, SilentInert t) (ws : List Nat) (s : BState) (line endLine : Nat)
    (hlen : endLine < s.lines.length) (silent m : Bool) (s' : BState) (h : ruleTable codeOn terms ws s line endLine silent = .ok (m, s')) :
    OldOrTable s.tokens s'.tokens := by
  rcases table_appAll codeOn terms hin ws s line endLine hlen silent m s' h with rfl | ⟨aligns, _, seg, _, e, hseg⟩
  · exact fun t ht => .inl ⟨t, ht, rfl⟩
  · intro t ht
    rw [e] at ht
    rcases List.mem_append.mp ht with h1 | h1
    · exact .inl ⟨t, h1, rfl⟩
    · exact .inr (hseg t h1).1.1

end MdIt.C10
