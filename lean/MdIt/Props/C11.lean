import MdIt.Proofs.Ruler
import MdIt.Generated.Tables
/-!
# C11 — rule management is coherent over any history, including failed calls

The model is `MdIt/Ruler.lean`, a transcription of `markdown_it/ruler.py` and of the façade in `main.py`; the lemmas about its loops are
in `MdIt/Proofs/Ruler.lean`.
-/
namespace MdIt.C11

/-- from any coherent state (e.g. a ruler as `ParserBlock.__init__` leaves it) -/
theorem coherent_from (r : Ruler) (h : r.Coherent) (ops : List ROp) (chain : String) :
    ((r.run ops).getRules chain).2 = chainOf (r.run ops).rules chain :=
  (getRules_spec _ (run_coherent _ h ops) chain).1

/-- **C11.coherent** — after *any* finite history of ruler operations (push, at, before, after, enable,
enableOnly, disable with `ignoreInvalid` on/off, `getRules` interleaved on any chain; each succeeding
or raising), what `getRules` returns for the main chain `""` and for every named chain is exactly
the enabled rules, in registration order, filtered by chain membership. -/
theorem coherent (ops : List ROp) (chain : String) :
    ((Ruler.empty.run ops).getRules chain).2 = chainOf (Ruler.empty.run ops).rules chain :=
  coherent_from _ (coherent_of_cache_none _ rfl) ops chain

/-- `getRules` in the middle of a history answers the specification *at that moment* and changes
neither the rules nor what is reported. -/
theorem getRules_inside (r : Ruler) (h : r.Coherent) (chain : String) :
    (r.step (.getRules chain)).2 = .fns (chainOf r.rules chain)
    ∧ (r.step (.getRules chain)).1.rules = r.rules :=
  ⟨congrArg ROut.fns (getRules_spec r h chain).1, getRules_rules r chain⟩

/-- "exactly the rules reported as active": the main chain is the fn-projection of the very filter
whose name-projection is `get_active_rules`. -/
theorem main_chain_is_active (rules : List Rule) :
    chainOf rules "" = (rules.filter (·.enabled)).map (·.fn)
    ∧ (Ruler.activeRules ⟨rules, none⟩) = (rules.filter (·.enabled)).map (·.name) := by
  constructor
  · simp [chainOf]
  · rfl

/-- named chains are sub-sequences of the main chain: filtered by membership, order kept -/
theorem named_chain_is_filtered (rules : List Rule) (chain : String) :
    chainOf rules chain =
      ((rules.filter (·.enabled)).filter (fun r => chain == "" || r.alt.contains chain)).map (·.fn) := by
  simp [chainOf, List.filter_filter, Bool.and_comm]

/-- **C11.enable_sets** (sets: enable) — rule `j` is enabled afterwards iff it was before or one of the applied
names resolves to it; nothing else about any rule changes.  "Applied" = all known names
(`ignoreInvalid`) or the known names before the first unknown one (the call then raises). -/
theorem enable_sets (r : Ruler) (names : List String) (ign : Bool) (j : Nat) :
    ((r.enable names ign).1.rules)[j]? = (r.rules[j]?).map (fun x =>
      if (appliedNames r.rules ign names).any (fun n => findRule r.rules n == some j)
      then { x with enabled := true } else x) :=
  enableLoop_rules true ign names r.rules [] j

theorem disable_sets (r : Ruler) (names : List String) (ign : Bool) (j : Nat) :
    ((r.disable names ign).1.rules)[j]? = (r.rules[j]?).map (fun x =>
      if (appliedNames r.rules ign names).any (fun n => findRule r.rules n == some j)
      then { x with enabled := false } else x) :=
  enableLoop_rules false ign names r.rules [] j

theorem enable_result (r : Ruler) (names : List String) (ign : Bool) :
    (r.enable names ign).2 = loopResult r.rules ign names [] :=
  enableLoop_result true ign names r.rules []

theorem disable_result (r : Ruler) (names : List String) (ign : Bool) :
    (r.disable names ign).2 = loopResult r.rules ign names [] :=
  enableLoop_result false ign names r.rules []

/-- `enableOnly` = disable everything, then `enable` -/
theorem enableOnly_sets (r : Ruler) (names : List String) (ign : Bool) (j : Nat) :
    ((r.enableOnly names ign).1.rules)[j]? = (r.rules[j]?).map (fun x =>
      { x with enabled :=
          (appliedNames r.rules ign names).any (fun n => findRule r.rules n == some j) }) := by
  have hn := map_disable_names r.rules
  simp only [Ruler.enableOnly]
  rw [enable_sets]
  simp only [appliedNames_congr hn, findRule_congr hn, List.getElem?_map]
  cases r.rules[j]? with
  | none => rfl
  | some x => by_cases h : (appliedNames r.rules ign names).any (fun n => findRule r.rules n == some j) <;> simp [h]

/-- enable / disable / enableOnly never add, remove, rename or reorder rules -/
theorem enable_keeps_names (r : Ruler) (names : List String) (ign : Bool) :
    (r.enable names ign).1.allRules = r.allRules :=
  enableLoop_names true ign names r.rules []

theorem disable_keeps_names (r : Ruler) (names : List String) (ign : Bool) :
    (r.disable names ign).1.allRules = r.allRules :=
  enableLoop_names false ign names r.rules []

theorem enableOnly_keeps_names (r : Ruler) (names : List String) (ign : Bool) :
    (r.enableOnly names ign).1.allRules = r.allRules :=
  (enable_keeps_names _ names ign).trans (map_disable_names r.rules)

/-- `at` / `before` / `after` with an unknown name raise `KeyError` and leave the ruler — rules *and*
cache, hence everything that is applied — unchanged. -/
theorem at_unknown (r : Ruler) (n : String) (f : Nat) (a : List String)
    (h : findRule r.rules n = none) : r.at n f a = (r, .error (.keyError n)) := by
  simp [Ruler.at, h]

theorem before_unknown (r : Ruler) (b n : String) (f : Nat) (a : List String)
    (h : findRule r.rules b = none) : r.before b n f a = (r, .error (.keyError b)) := by
  simp [Ruler.before, h]

theorem after_unknown (r : Ruler) (b n : String) (f : Nat) (a : List String)
    (h : findRule r.rules b = none) : r.after b n f a = (r, .error (.keyError b)) := by
  simp [Ruler.after, h]

/-- with `ignoreInvalid` an unknown name is skipped: the call cannot raise … -/
theorem enable_ignore_never_raises (r : Ruler) (names : List String) :
    ∃ l, (r.enable names true).2 = .ok l := ⟨appliedNames r.rules true names, by rw [enable_result]; simp [loopResult]⟩

/-- … and a call that names only unknown rules changes no rule at all. -/
theorem enable_all_unknown_noop (r : Ruler) (names : List String) (ign : Bool)
    (h : ∀ n ∈ names, findRule r.rules n = none) :
    (r.enable names ign).1.rules = r.rules := by
  have happ : appliedNames r.rules ign names = [] := by
    induction names with
    | nil => rfl
    | cons m ms ih => rw [appliedNames_cons_none (h m (by simp)), ih (fun n hn => h n (by simp [hn])), ite_self]
  apply List.ext_getElem?; intro j
  rw [enable_sets, happ]
  cases r.rules[j]? <;> rfl

/-- **C11.facade** — `MarkdownIt.enable/disable` apply the call to each of the four rulers with
`ignoreInvalid=True` (so each ruler obeys `enable_sets`/`disable_sets`), and raise `ValueError`
exactly when `ignoreInvalid` is off and some name is unknown to all four — *after* the valid names
were applied. -/
theorem facade (m : Rulers) (b : Bool) (names : List String) (ign : Bool) :
    let f := fun (r : Ruler) => if b then r.enable names true else r.disable names true
    (m.setMany b names ign).1 = ⟨(f m.core).1, (f m.block).1, (f m.inline).1, (f m.inline2).1⟩
    ∧ ((∃ e, (m.setMany b names ign).2 = .error e) ↔
        (ign = false ∧ ∃ n ∈ names, findRule m.core.rules n = none ∧ findRule m.block.rules n = none
          ∧ findRule m.inline.rules n = none ∧ findRule m.inline2.rules n = none)) := by
  have hres : ∀ r : Ruler, okNames ((if b then r.enable names true else r.disable names true).2)
      = names.filter (fun n => (findRule r.rules n).isSome) := by
    intro r
    rw [enable_disable_eq, enableLoop_result, ← appliedNames_ign]
    rfl
  refine ⟨rfl, ?_⟩
  simp only [Rulers.setMany, hres]
  have herr : ∀ c : Bool, (∃ e, (if c = true then Except.error (PyErr.valueError "unknown rule(s)") else Except.ok ())
      = Except.error e) ↔ c = true := by
    intro c; cases c <;> simp
  rw [herr, Bool.and_eq_true, Bool.not_eq_true', Bool.not_eq_true', List.isEmpty_eq_false_iff_exists_mem, and_comm]
  refine and_congr_right fun _ => exists_congr fun n => ?_
  rw [List.mem_filter]
  refine and_congr_right fun hn => ?_
  simp [hn]

/-! ### non-vacuity: concrete histories that meet the hypotheses and exercise the failure path -/

/-- a history with a duplicate name, an unknown name that raises mid-loop, and a query afterwards -/
example :
    let ops : List ROp := [.push "a" 1 ["x"], .push "b" 2 [], .push "a" 3 ["x"],
      .getRules "", .disable ["b", "nope", "a"] false, .getRules "x"]
    ((Ruler.empty.run ops).getRules "").2 = [1, 3] ∧ ((Ruler.empty.run ops).getRules "x").2 = [1, 3]
      ∧ (Ruler.empty.run ops).activeRules = ["a", "a"] := by decide

/-- `disable` invalidating the cache only *after* the loop is exactly what the invariant excludes: a stale cache survives the raise -/
def staleDisable (r : Ruler) (names : List String) (ign : Bool) : Ruler :=
  let (rules', res) := enableLoop false ign names r.rules []
  match res with
  | .ok _ => { rules := rules', cache := none }
  | .error _ => { rules := rules', cache := r.cache }   -- raise skips `self.__cache__ = None`

example :
    let r0 := ((Ruler.empty.push "a" 1 []).push "b" 2 []).getRules ""
    let r1 := staleDisable r0.1 ["b", "nope"] false
    (r1.getRules "").2 = [1, 2] ∧ chainOf r1.rules "" = [1] := by decide

/-- **C11.terminator_chain_names** (T1 obligation over the table regenerated from the rule sources) — every block rule
that runs a terminator chain asks the ruler for the chain named after what it may be interrupted in: paragraph-like rules
the `paragraph` chain, the reference rule `reference`, the list rule `list`, block quote and table `blockquote`.  What
`getRules(chain)` *reports* for a chain is therefore what these rules *apply* (the harness also checks it dynamically with
one spy rule per chain). -/
theorem terminator_chain_names : Gen.terminatorChains =
    [("table", "blockquote"), ("blockquote", "blockquote"), ("list", "list"), ("reference", "reference"),
     ("lheading", "paragraph"), ("paragraph", "paragraph")] := by decide

end MdIt.C11
