import MdIt.Url
import MdIt.Proofs.ListFacts
/-!
# C05 — emitted link and image URLs are normalised and never carry a dangerous scheme

Model: `MdIt/Url.lean`.  `badProtos`, `goodDataKinds`, `encodeDefaultChars` are T1 tables extracted
from the live modules; the obligations below are re-checked against them on every run.
-/
namespace MdIt.C05

/-- the schemes the property names -/
def Dangerous : List String := ["javascript", "vbscript", "file", "data"]

/-- **T1 obligation** — the blacklist of the current source covers every scheme the property names -/
theorem dangerous_covered : ∀ d ∈ Dangerous, d ∈ Gen.badProtos := by decide +kernel

/-- **T1 obligation** — the data: whitelist is exactly the four image kinds -/
theorem good_kinds : Gen.goodDataKinds = ["gif", "png", "jpeg", "webp"] := by decide +kernel

/-- **T1 obligation** — the characters `mdurl.encode` leaves alone are printable URL punctuation:
no control, space, quote, angle bracket, backslash, backtick or non-ASCII, and not `%` (which `encode` writes itself) -/
theorem default_chars_safe : ∀ n ∈ Gen.encodeDefaultChars,
    33 ≤ n ∧ n < 127 ∧ n ≠ 34 ∧ n ≠ 60 ∧ n ≠ 62 ∧ n ≠ 92 ∧ n ≠ 96 ∧ n ≠ 37 := by decide +kernel

theorem hexU_safe (n : Nat) (h : n < 16) : isAlnumAscii (hexU n) = true := by
  revert n
  decide +kernel

theorem pct_safe (b : Nat) (hb : b < 256) : ∀ c ∈ pct b, SafeAscii c := by
  intro c hc
  simp only [pct, List.mem_cons, List.mem_nil_iff, or_false] at hc
  rcases hc with rfl | rfl | rfl
  · exact Or.inr (Or.inr rfl)
  · exact Or.inl (hexU_safe _ (by omega))
  · exact Or.inl (hexU_safe _ (by omega))

theorem encOne_safe (c : Char) : ∀ x ∈ encOne c, SafeAscii x := by
  intro x hx
  unfold encOne at hx
  by_cases h128 : c.toNat < 128
  · rw [if_pos h128] at hx
    by_cases hk : (isAlnumAscii c || Gen.encodeDefaultChars.contains c.toNat) = true
    · rw [if_pos hk, List.mem_singleton] at hx
      subst hx
      rcases Bool.or_eq_true _ _ ▸ hk with hk | hk
      · exact Or.inl hk
      · exact Or.inr (Or.inl hk)
    · rw [if_neg hk] at hx
      exact pct_safe _ (by omega) x hx
  · rw [if_neg h128, List.mem_flatMap] at hx
    obtain ⟨b, hb, hxb⟩ := hx
    have : b < 256 := by
      simp only [utf8Bytes, List.mem_map] at hb
      obtain ⟨u, _, rfl⟩ := hb
      exact u.toNat_lt
    exact pct_safe b this x hxb

theorem isHexDigit_alnum (c : Char) (h : isHexDigit c = true) : isAlnumAscii c = true := by
  unfold isHexDigit at h
  unfold isAlnumAscii
  simp only [Bool.or_eq_true, Bool.and_eq_true, decide_eq_true_eq] at h ⊢
  rcases h with (h | h) | h
  · exact Or.inr h
  · refine Or.inl (Or.inl ⟨h.1, ?_⟩)
    exact Char.le_trans h.2 (by decide)
  · refine Or.inl (Or.inr ⟨h.1, ?_⟩)
    exact Char.le_trans h.2 (by decide)

/-- **C05.encode_range** — every character `mdurl.encode` emits is URL-safe ASCII: an alphanumeric,
one of the default punctuation characters, or `%` — for every input string (in particular no
control character, space, quote, angle bracket or non-ASCII character survives). -/
theorem encode_range (s : List Char) : ∀ c ∈ encode s, SafeAscii c := by
  induction s using encode.induct with
  | case1 => intro c hc; simp [encode] at hc
  | case2 c a b rest hcond ih =>
    intro x hx
    rw [encode] at hx
    simp only [hcond, and_self, if_true, List.mem_cons] at hx
    rcases hx with rfl | rfl | rfl | hx
    · exact Or.inr (Or.inr rfl)
    · exact Or.inl (isHexDigit_alnum _ hcond.2.1)
    · exact Or.inl (isHexDigit_alnum _ hcond.2.2)
    · exact ih x hx
  | case3 c a b rest hcond ih =>
    intro x hx
    rw [encode] at hx
    simp only [hcond, if_false, List.mem_append] at hx
    rcases hx with hx | hx
    · exact encOne_safe c x hx
    · exact ih x hx
  | case4 c t hne ih =>
    intro x hx
    rw [encode.eq_3 _ _ hne, List.mem_append] at hx
    rcases hx with hx | hx
    · exact encOne_safe c x hx
    · exact ih x hx

/-- `normalizeLink = encode ∘ reformat` (`IExt.normLink`): whatever `mdurl` reformatting precedes it, `encode` runs last -/
theorem normalizeLink_range (reformat : List Char → List Char) (u : List Char) :
    ∀ c ∈ encode (reformat u), SafeAscii c := encode_range _

theorem safe_gt_space (c : Char) (h : SafeAscii c) : 32 < c.toNat := by
  have key : ∀ d : Char, 32 < d.toNat → d ≤ c → 32 < c.toNat := fun d hd h => Nat.lt_of_lt_of_le hd h
  rcases h with h | h | h
  · unfold isAlnumAscii at h
    simp only [Bool.or_eq_true, Bool.and_eq_true, decide_eq_true_eq] at h
    rcases h with (h | h) | h <;> exact key _ (by decide) h.1
  · have := default_chars_safe c.toNat (by simpa [List.contains_iff_mem] using h)
    omega
  · subst h; decide

theorem safe_not_space (c : Char) (h : SafeAscii c) : isPySpaceAscii c = false ∧ isC0OrSpace c = false
    ∧ isTabNl c = false := by
  have hgt := safe_gt_space c h
  refine ⟨?_, ?_, ?_⟩
  · simp only [isPySpaceAscii, Bool.or_eq_false_iff, beq_eq_false_iff_ne, Bool.and_eq_false_iff,
      decide_eq_false_iff_not]
    omega
  · simp only [isC0OrSpace, decide_eq_false_iff_not]
    omega
  · have ht : ∀ d : Char, d.toNat ≤ 32 → c ≠ d := fun d hd e => by subst e; omega
    simp [isTabNl, ht '\t', ht '\n', ht '\r']

theorem strip_id (p : Char → Bool) (s : List Char) (h : ∀ c ∈ s, p c = false) :
    ((s.dropWhile p).reverse.dropWhile p).reverse = s := by
  rw [dropWhile_id p s h, dropWhile_id p s.reverse (by simpa using h), List.reverse_reverse]

theorem schemeBody_spec (s p : List Char) (h : schemeBody s = some p) :
    ∃ rest, s = p ++ ':' :: rest := by
  fun_induction schemeBody s generalizing p with
  | case1 | case4 => cases h
  | case2 rest => cases h; exact ⟨rest, rfl⟩
  | case3 c rest _ _ ih =>
    cases hb : schemeBody rest with
    | none => rw [hb] at h; cases h
    | some q =>
      rw [hb] at h
      cases h
      obtain ⟨r, hr⟩ := ih q hb
      exact ⟨r, by rw [hr]; rfl⟩

/-- **C05.validate_sound** — for a URL made of URL-safe ASCII (which is what `normalizeLink` returns,
`normalizeLink_range`): if the validator accepts it, then read the way a browser reads it (leading and
trailing controls/spaces stripped, tab/LF/CR removed, scheme compared case-insensitively) its scheme
is none of the blacklisted ones — in particular none of javascript, vbscript, file, data
(`dangerous_covered`) — unless it is a `data:image/(gif|png|jpeg|webp);` URL. -/
theorem validate_sound (h : List Char) (hs : ∀ c ∈ h, SafeAscii c) (hv : validateLink h = true) :
    (∀ d ∈ Gen.badProtos, browserScheme h ≠ some d.toList) ∨ matchesGoodData (lowerAscii h) = true := by
  have hstrip : stripAscii h = h := strip_id _ h (fun c hc => (safe_not_space c (hs c hc)).1)
  have hb : (((h.dropWhile isC0OrSpace).reverse.dropWhile isC0OrSpace).reverse).filter (fun c => !isTabNl c) = h := by
    rw [strip_id _ h (fun c hc => (safe_not_space c (hs c hc)).2.1)]
    rw [List.filter_eq_self]
    intro c hc; simp [(safe_not_space c (hs c hc)).2.2]
  unfold validateLink at hv
  simp only [hstrip] at hv
  by_cases hbad : matchesBad (lowerAscii h) = true
  · simp only [hbad, if_true] at hv
    exact Or.inr hv
  · left
    intro d hd hsch
    apply hbad
    unfold browserScheme at hsch
    simp only [hb] at hsch
    cases h with
    | nil => simp at hsch
    | cons c t =>
      simp only at hsch
      by_cases hal : isAlphaAscii c = true
      · rw [if_pos hal] at hsch
        cases hbody : schemeBody (c :: t) with
        | none => rw [hbody] at hsch; cases hsch
        | some p =>
          rw [hbody] at hsch
          simp only [Option.map_some, Option.some.injEq] at hsch
          obtain ⟨rest, hr⟩ := schemeBody_spec _ _ hbody
          unfold matchesBad
          rw [List.any_eq_true]
          refine ⟨d, hd, ?_⟩
          rw [hr]
          simp only [lowerAscii, List.map_append, List.map_cons] at hsch ⊢
          rw [hsch]
          have : Char.toLower ':' = ':' := by decide
          rw [this]
          simp
      · rw [if_neg hal] at hsch
        cases hsch

/-- `MarkdownIt.normalizeLink` then `validateLink`, as every producer calls them -/
theorem api (reformat : List Char → List Char) (u : List Char)
    (hv : validateLink (encode (reformat u)) = true) :
    (∀ d ∈ Gen.badProtos, browserScheme (encode (reformat u)) ≠ some d.toList)
      ∨ matchesGoodData (lowerAscii (encode (reformat u))) = true :=
  validate_sound _ (encode_range _) hv

/-! non-vacuity and sharpness -/
example : validateLink "JaVaScRiPt:alert(1)".toList = false := by decide +kernel
example : browserScheme "JaVaScRiPt:alert(1)".toList = some "javascript".toList := by decide +kernel
example : validateLink "data:image/png;base64,AAAA".toList = true := by decide +kernel
example : validateLink "data:text/html,x".toList = false := by decide +kernel
example : validateLink "http://a.b/c?d=%20".toList = true ∧ ∀ c ∈ "http://a.b/c?d=%20".toList, SafeAscii c := by
  decide +kernel
/-- the hypothesis matters: with a leading control character the browser still reads a scheme the
validator does not see — such a string is never produced by `normalizeLink` (`encode` would have
percent-encoded the control character) -/
example : validateLink "\x01javascript:x".toList = true
    ∧ browserScheme "\x01javascript:x".toList = some "javascript".toList := by decide +kernel

end MdIt.C05
