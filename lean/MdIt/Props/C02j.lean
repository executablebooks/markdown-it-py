import MdIt.Proofs.Pipeline
import MdIt.Props.C02h
import MdIt.Props.C02k
/-!
# C02 (continued) — the block-level stream of `MarkdownIt.parse` end to end is levelled, balanced and tree-constructible

The `inline` and `text_join` core rules change nothing of a block token but its `children`; levels and nesting — all that
`levelsOK`, `balancedFrom` and `buildTree`'s success depend on — are those of the block parse: `m_wellformed` gives
`full_top_wellformed`, and `t_wellformed` (with the `table` rule) gives `fullT_top_wellformed`.
-/
namespace MdIt.C02

theorem sameNL_of_setCh {ts bts : List Tok} : ts.map (·.setChildren none) = bts.map (·.setChildren none) → SameNL ts bts :=
  sameNL_of_map_eq fun t u h =>
    ⟨by rw [← t.setChildren_nesting none, h, u.setChildren_nesting], by rw [← t.setChildren_level none, h, u.setChildren_level]⟩

theorem coreInline_sameNL (parse : List Char → Except PyErr (List Tok)) : ∀ (bts ts : List Tok), coreInline parse bts = .ok ts → SameNL ts bts :=
  fun _ _ h => sameNL_of_setCh (coreInline_setCh h)

theorem textJoin_sameNL : ∀ ts : List Tok, SameNL (textJoin ts) ts :=
  fun ts => sameNL_of_setCh (textJoin_setCh ts)

theorem wellformed_of_setCh {ts bts : List Tok} (h : ts.map (·.setChildren none) = bts.map (·.setChildren none))
    (w : levelsOK 0 bts ∧ depthAfter 0 bts = 0 ∧ balancedFrom 0 bts = true ∧ ∃ f, buildTree bts = .ok f) :
    levelsOK 0 ts ∧ depthAfter 0 ts = 0 ∧ balancedFrom 0 ts = true ∧ ∃ f, buildTree ts = .ok f := by
  have hw : WellSeg 0 ts := .congr (sameNL_of_setCh h) ⟨w.1, w.2.1, w.2.2.1⟩
  exact ⟨hw.1, hw.2.1, hw.2.2, tree_of_balanced _ hw.2.2⟩

/-- **C02.full_top_wellformed** — the top-level stream `MarkdownIt.parse` returns (modelled sub-language: nine of eleven block rules,
the `inline` and `text_join` core rules on or off, any inline configuration): levels start at 0 and follow the nestings, the stream
is balanced, ends at depth 0, and `SyntaxTreeNode` builds — for every source, rule subsets, `html`, `maxNesting`. -/
theorem full_top_wellformed (cls : QCls) (ext : IExt) (lx : LExt) (bc : MCfg) (ic : ICfg) (ws : List Nat) (mn : Int) (d : Nat) (src : List Char)
    (ts : List Tok) (h : fullParse cls ext lx bc ic ws mn d src = .ok ts) :
    levelsOK 0 ts ∧ depthAfter 0 ts = 0 ∧ balancedFrom 0 ts = true ∧ ∃ f, buildTree ts = .ok f := by
  obtain ⟨bts, hb, hc⟩ := fullParse_iff.1 h
  exact wellformed_of_setCh (coreTail_setCh hc) (m_wellformed bc ws mn src bts hb)

theorem fullT_top_wellformed (cls : QCls) (ext : IExt) (lx : LExt) (tc : TCfg) (hnr : tc.reference = false) (ic : ICfg) (ws : List Nat) (mn : Int)
    (d : Nat) (src : List Char) (ts : List Tok) (refs dups) (h : fullParseT cls ext lx tc ic ws mn d src = .ok (ts, refs, dups)) :
    levelsOK 0 ts ∧ depthAfter 0 ts = 0 ∧ balancedFrom 0 ts = true ∧ ∃ f, buildTree ts = .ok f := by
  obtain ⟨st, hb, hc, _⟩ := fullParseT_iff.1 h
  exact wellformed_of_setCh (coreTail_setCh hc) (t_wellformed ext lx tc hnr ws mn src st hb)

end MdIt.C02
