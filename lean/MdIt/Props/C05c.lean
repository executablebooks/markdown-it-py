import MdIt.Props.C01i
import MdIt.Props.C05
import MdIt.Props.C10e
import MdIt.Props.C02f
/-!
# C05 (continued) — every `href` the modelled inline sub-parser stores is normalised and validated: autolinks, then the `link` rule

Token provenance (`C10`) accounts for every token of the inline parse, so it is enough to look at the rules that store a URL.
`autolink` pushes a `link_open` with exactly `href = normalizeLink(url)` for a `url` on which `validateLink` answered true.  The `link`
rule stores, for an inline link `[text](dest "title")`, `normalizeLink(dest)` only after `validateLink` accepted it (otherwise the
construct falls back to the reference form or stays text); for a reference link, what `env["references"]` holds (hypothesis `RefsOK`
on the reference table); or the link has an empty destination (`LinkSrc`).

The engine is `C10.IAdds2` (a call appends tokens satisfying `N`, a silent call none; no context needed); for the link rule, the walk
of `Proofs/LinkWalk` with "the token list is the entry state's" for the silent half and "… plus tokens satisfying `N`" for the normal
half.  `LinkN`: what `N` has to grant for the two tokens the rule itself pushes.
-/
namespace MdIt.C05
open MdIt.C01 MdIt.C10

/-- **C05.xmini_hrefs** — the sub-parser of `C01.xmini_total` (`autolink` is its only rule that stores a URL; `link`, `image`, `linkify`
are not in it): whatever the `mdurl` reformatting, every `link_open` of the output has a single attribute `href`, made of URL-safe
ASCII only, whose scheme as a browser reads it is none of the dangerous ones unless it is a `data:image/(gif|png|jpeg|webp);` URL -/
theorem xmini_hrefs (cls : QCls) (ext : IExt) (c : IMiniCfg) (strike emphasis autolink htmlInline entity fragJoin : Bool) (mn : Int)
    (src : List Char) (ts : List Tok)
    (h : inlineParse (xminiChain cls ext c strike emphasis autolink htmlInline entity) (sminiPost strike emphasis) fragJoin mn src = .ok ts)
    (t : Tok) (ht : t ∈ ts) (hty : t.type = "link_open") :
    ∃ href : List Char, t.attrs = [("href", .s (String.ofList href))] ∧ (∀ ch ∈ href, SafeAscii ch)
      ∧ ((∀ d ∈ Gen.badProtos, browserScheme href ≠ some d.toList) ∨ matchesGoodData (lowerAscii href) = true) := by
  rcases xmini_provenance ext c strike emphasis autolink htmlInline entity cls fragJoin mn src ts h t ht with ⟨_, _, u, ha, hv⟩ | ⟨hv, _⟩
  · exact ⟨ext.normLink u, ha, encode_range _, api ext.reformat u hv⟩
  · rw [hty, mem_xVocab, mem_emphTypes] at hv
    simp [emTypes, sTypes] at hv

/-! non-vacuity: an autolink with a harmless scheme is a link, one with a dangerous scheme stays text -/
def ext0 : IExt := { entity := fun n => if n = "amp".toList then some ['&'] else none, reformat := id, normText := id, html := true }

example : C01.itypesOf (inlineParse (xminiChain C02f.asciiCls ext0 ⟨true, true, true⟩ true true true true true) (sminiPost true true) true 20
    "<http://a.b/c?d> <javascript:x> &amp; <b>".toList)
    = some ["link_open", "text", "link_close", "text", "text_special", "text", "html_inline"] := by decide +kernel

/-- `IAdds2` asked only in the context of the two-mode contract -/
def IAdds4 (N : Tok → Prop) (r : IRule) : Prop :=
  ∀ s silent m s', ICtx s → CacheOK s → r s silent = .ok (m, s') →
    ∃ new, s'.tokens = s.tokens ++ new ∧ (∀ t ∈ new, N t) ∧ (silent = true → new = [])

theorem iadds4_of {N : Tok → Prop} {r : IRule} (h : IAdds2 N r) : IAdds4 N r :=
  fun s silent m s' _ _ hr => h s silent m s' hr

/-- the three ways an `href` of the link rule arises -/
def LinkSrc (ext : IExt) (lx : LExt) (href : List Char) : Prop :=
  href = [] ∨ (∃ u, href = ext.normLink u ∧ validateLink (ext.normLink u) = true) ∨ (∃ l t, lx.refs l = some (href, t))

/-! the scan of `( dest "title" )` as `image` does it; `link`'s is a case of it (`linkDestTitle_eq`) -/

theorem imageDest_src (ext : IExt) (lx : LExt) (s : IState) (p1 : Nat) : LinkSrc ext lx (imageDest ext s p1).2 := by
  unfold imageDest
  cases hd : parseLinkDestination ext s.src p1 s.posMax with
  | none => exact .inl rfl
  | some q =>
    obtain ⟨dpos, dstr⟩ := q
    show LinkSrc ext lx (if validateLink (ext.normLink dstr) = true then (dpos, ext.normLink dstr) else (p1, [])).2
    split
    · rename_i hv; exact .inr (.inl ⟨dstr, rfl, hv⟩)
    · exact .inl rfl

theorem imageDestTitle_src (ext : IExt) (lx : LExt) (s : IState) (maximum p1 : Nat) : LinkSrc ext lx (imageDestTitle ext s maximum p1).2.1 := by
  unfold imageDestTitle
  simp only
  have key := imageDest_src ext lx s p1
  generalize imageDest ext s p1 = dh at key
  -- every branch returns `dh.2` as its second component
  split
  · split <;> exact key
  · exact key

theorem linkDestTitle_src (ext : IExt) (lx : LExt) (s : IState) (maximum p1 : Nat) : LinkSrc ext lx (linkDestTitle ext s maximum p1).2.1 := by
  rw [linkDestTitle_eq]
  split
  · exact imageDestTitle_src ext lx s maximum p1
  · exact .inl rfl

theorem linkInline_src (ext : IExt) (lx : LExt) (s : IState) (labelEnd maximum pos1 : Nat) (h t : List Char) (pr : Bool)
    (hi : linkInline ext s labelEnd maximum = some (pos1, h, t, pr)) : LinkSrc ext lx h := by
  unfold linkInline at hi
  simp only at hi
  split at hi
  · split at hi
    · cases hi
    · simp only [Option.some.injEq, Prod.mk.injEq] at hi
      obtain ⟨_, rfl, _⟩ := hi
      exact linkDestTitle_src ext lx s maximum _
  · simp only [Option.some.injEq, Prod.mk.injEq] at hi
    obtain ⟨_, rfl, _⟩ := hi
    exact .inl rfl

theorem linkRef_src (ext : IExt) (lx : LExt) (mn : Int) (inner : List IRule) (s : IState) (labelStart labelEnd maximum pos1 : Nat) (s2 : IState)
    (pos : Nat) (h t l : List Char) (hr : linkRef lx mn inner s labelStart labelEnd maximum pos1 = .ok (s2, some (pos, h, t, l))) :
    LinkSrc ext lx h := by
  unfold linkRef at hr
  split at hr
  · simp at hr
  · cases hl : linkSecondLabel mn inner s labelEnd maximum pos1 with
    | error e => rw [hl] at hr; cases hr
    | ok v =>
      obtain ⟨pos2, label, s3⟩ := v
      rw [hl] at hr
      simp only at hr
      split at hr
      · simp at hr
      · rename_i h' t' href
        simp only [Except.ok.injEq, Prod.mk.injEq, Option.some.injEq] at hr
        obtain ⟨_, _, rfl, rfl, _⟩ := hr
        exact .inr (.inr ⟨_, _, href⟩)

def LTok (ext : IExt) (lx : LExt) (t : Tok) : Prop :=
  t.type = "link_open" → ∃ href, t.attrs.head? = some ("href", .s (String.ofList href)) ∧ LinkSrc ext lx href

theorem ltok_other (ext : IExt) (lx : LExt) (t : Tok) (h : t.type ≠ "link_open") : LTok ext lx t := fun ht => absurd ht h

theorem ltok_text (ext : IExt) (lx : LExt) : ∀ lvl c, LTok ext lx (mkInlineTok "text" "" 0 lvl c "" "") :=
  fun _ _ => ltok_other _ _ _ (by simp [mkInlineTok, Tok.type])

structure LinkN (ext : IExt) (lx : LExt) (N : Tok → Prop) : Prop where
  flat : ∀ t, t.children = none → t.type = "text" ∨ t.type = "link_close" → N t
  linkOpen : ∀ t href (label : List Char), t.children = none → t.type = "link_open" → t.attrs.head? = some ("href", .s (String.ofList href)) →
    t.metaD = (if !label.isEmpty && lx.storeLabels then [("label", String.ofList label)] else []) → LinkSrc ext lx href → N t

theorem LinkN.text {ext : IExt} {lx : LExt} {N : Tok → Prop} (h : LinkN ext lx N) : ∀ lvl c, N (mkInlineTok "text" "" 0 lvl c "" "") :=
  fun _ _ => h.flat _ rfl (.inl rfl)

theorem ltok_linkN (ext : IExt) (lx : LExt) : LinkN ext lx (LTok ext lx) :=
  ⟨fun t _ h => ltok_other ext lx t (by rcases h with h | h <;> rw [h] <;> decide), fun _ href _ _ _ ha _ hs _ => ⟨href, ha, hs⟩⟩

theorem linkFind_src (ext : IExt) (lx : LExt) (mn : Int) (inner : List IRule) (s s2 : IState) (f : Found)
    (h : linkFind ext lx mn inner s = .ok (s2, some f)) : LinkSrc ext lx f.href := by
  revert h
  fun_cases linkFind ext lx mn inner s
  -- the two branches that find something: the inline form (4), a reference (7)
  case case4 hi => intro h; cases h; exact linkInline_src ext lx _ _ _ _ _ _ _ hi
  case case7 hr => intro h; cases h; exact linkRef_src ext lx mn inner _ _ _ _ _ _ _ _ _ _ hr
  all_goals (intro h; cases h)

theorem pushPending_adds {N : Tok → Prop} (hText : ∀ lvl c, N (mkInlineTok "text" "" 0 lvl c "" "")) (s : IState) :
    Adds N s.tokens s.pushPending.tokens :=
  ⟨[_], rfl, fun t ht => by rw [List.mem_singleton] at ht; subst ht; exact hText _ _⟩

theorem pushClose_adds {N : Tok → Prop} (hText : ∀ lvl c, N (mkInlineTok "text" "" 0 lvl c "" "")) (s s3 : IState) (ty tag : String)
    (hN : ∀ lvl, N (mkInlineTok ty tag (-1) lvl "" "" "")) (h : s.pushClose ty tag = .ok s3) : Adds N s.tokens s3.tokens := by
  rw [pushClose_eq] at h
  split at h
  · cases h; exact adds_flush hText (s := s) rfl (hN _)
  · cases h

theorem skipInv_tokens {N : Tok → Prop} {inner : List IRule} (had : ∀ r ∈ inner, IAdds2 N r) (mn : Int) (T : List Tok) :
    SkipInv inner inner mn (fun x => x.tokens = T) :=
  .of_rules (fun _ _ _ _ h => h) (fun r hr x m x' hx h => (had r hr x true m x' h).eq_of_silent.trans hx)

theorem adds2_link (ext : IExt) (lx : LExt) {N : Tok → Prop} (hN : LinkN ext lx N) (mn : Int) (inner : List IRule)
    (had : ∀ r ∈ inner, IAdds2 N r) : IAdds2 N (ruleLink ext lx mn inner) := by
  rw [ruleLink_eq]
  intro s silent m s' h
  have hR : ∀ e, RunInv inner inner e (fun x => Adds N s.tokens x.tokens) := fun e =>
    .of_rules (fun _ _ h => h) (fun x hx => hx.trans (pushPending_adds hN.text x))
      (fun r hr x m x' hx h => hx.trans (had r hr x false m x' h).adds)
  have hemit : ∀ s2 f, linkFind ext lx mn inner s = .ok (s2, some f) → s2.tokens = s.tokens →
      ∀ s3, linkEmit lx mn inner s2 (s.pos + 1) f.labelEnd f.href f.title f.label = .ok s3 → Adds N s.tokens s3.tokens := by
    intro s2 f hf h2
    have hopen : Adds N s.tokens (linkOpened lx s2 (s.pos + 1) f.labelEnd f.href f.title f.label).tokens :=
      h2 ▸ adds_flush (s := s2) hN.text (by unfold linkOpened; rw [pushOpen_eq]; rfl)
        (hN.linkOpen _ f.href f.label rfl rfl rfl rfl (linkFind_src ext lx mn inner s s2 f hf))
    exact (linkEmit_same lx mn s2 (s.pos + 1) f.labelEnd f.href f.title f.label (hR _) hopen fun x s3 hx h3 =>
      hx.trans (pushClose_adds hN.text { x with linkLevel := x.linkLevel - 1 } s3 _ _ (fun _ => hN.flat _ rfl (.inr rfl)) h3)).2
  obtain ⟨hl, hs⟩ := bracket_keeps (Ps := fun x => x.tokens = s.tokens) (Pl := fun x => Adds N s.tokens x.tokens) h
    (fun x hx => hx ▸ .refl) rfl (linkFind_same (skipInv_tokens had mn _) ext lx s rfl).2 (fun _ _ _ h => h) hemit
  cases silent with
  | true => exact .nil (hs rfl)
  | false => exact .loud rfl hl

theorem linkChain_adds2 (cls : QCls) (ext : IExt) (lx : LExt) (newline escape backticks strike emphasis link autolink htmlInline entity : Bool) (mn : Int) :
    ∀ d : Nat, ∀ r ∈ linkChain cls ext lx newline escape backticks strike emphasis link autolink htmlInline entity mn d, IAdds2 (LTok ext lx) r := by
  have hT := ltok_text ext lx
  have o : ∀ (ty : String), ty ≠ "link_open" → ∀ (tag : String) (n lvl : Int) (c m i : String), LTok ext lx (mkInlineTok ty tag n lvl c m i) :=
    fun ty h tag n lvl c m i => ltok_other _ _ _ (by simpa [mkInlineTok, Tok.type] using h)
  exact linkChain_forall (adds_text hT)
    (fun _ => adds_newline hT (fun _ => o "hardbreak" (by decide) _ _ _ _ _ _) (fun _ => o "softbreak" (by decide) _ _ _ _ _ _))
    (fun _ => adds_escape hT (fun _ => o "hardbreak" (by decide) _ _ _ _ _ _) (fun _ _ _ => o "text_special" (by decide) _ _ _ _ _ _))
    (fun _ => adds_backticks hT (fun _ _ _ => o "code_inline" (by decide) _ _ _ _ _ _)) (fun _ => adds_strike hT cls)
    (fun _ => adds_emphasis hT cls) (fun _ d ih => adds2_link ext lx (ltok_linkN ext lx) mn _ ih)
    (fun _ => adds_autolink hT ext (fun lvl u hv _ => ⟨ext.normLink u, rfl, .inr (.inl ⟨u, rfl, hv⟩)⟩)
      (fun _ => o "link_close" (by decide) _ _ _ _ _ _))
    (fun _ => adds_htmlInline hT ext (fun _ _ _ => o "html_inline" (by decide) _ _ _ _ _ _))
    (fun _ => adds_entity hT ext (fun _ _ _ => o "text_special" (by decide) _ _ _ _ _ _))

theorem ltok_closed (ext : IExt) (lx : LExt) (strike emphasis : Bool) : TokClosed (LTok ext lx) (emphTypes strike emphasis) := by
  refine ⟨ltok_text ext lx, ?_, ?_, ?_⟩
  · intro t l h; unfold LTok at *; simpa using h
  · intro t c h; unfold LTok at *; simpa using h
  · intro t ty tag n mk _ hty
    apply ltok_other
    simp only [Tok.setEmph_type]
    intro he; subst he
    exact not_mem_emphTypes (by decide) hty

theorem linkPost_toks {N : Tok → Prop} (strike emphasis : Bool) (hN : TokClosed N (emphTypes strike emphasis)) (s : IState) (h : AllTok N s) :
    AllTok N ((linkPost strike emphasis).foldl (fun acc f => f acc) s) := by
  refine foldl_keeps (AllTok N) _ _ s ?_ h
  intro s f hf h
  simp only [linkPost, List.mem_append, List.mem_ite_nil_right, List.mem_singleton] at hf
  rcases hf with (⟨_, rfl⟩ | ⟨hst, rfl⟩) | ⟨hem, rfl⟩
  · exact h
  · have hE : ∀ ty ∈ sTypes, ty ∈ emphTypes strike emphasis := fun ty hty => mem_emphTypes.2 (.inr ⟨hst, hty⟩)
    exact foldl_keeps (fun ts => ∀ t ∈ ts, N t) _ _ _ (fun ts p _ h => strikeGo_toks hN hE p.2 ts h) (strikeGo_toks hN hE _ _ h)
  · have hE : ∀ ty ∈ emTypes, ty ∈ emphTypes strike emphasis := fun ty hty => mem_emphTypes.2 (.inl ⟨hem, hty⟩)
    exact foldl_keeps (fun ts => ∀ t ∈ ts, N t) _ _ _ (fun ts p _ h => emphPostGo_toks hN hE p.2 _ _ ts h) (emphPostGo_toks hN hE _ _ _ _ h)

theorem parse_toks2 {N : Tok → Prop} (strike emphasis : Bool) (hN : TokClosed N (emphTypes strike emphasis)) (rules : List IRule)
    (had : ∀ r ∈ rules, IAdds2 N r) (fragJoin : Bool) (mn : Int) (src : List Char) (ts : List Tok)
    (h : inlineParse rules (linkPost strike emphasis) fragJoin mn src = .ok ts) : ∀ t ∈ ts, N t :=
  inlineParse_all hN rules had _ (linkPost_toks strike emphasis hN) fragJoin mn src ts h

theorem link_sources (cls : QCls) (ext : IExt) (lx : LExt) (newline escape backticks strike emphasis link autolink htmlInline entity fragJoin : Bool)
    (mn : Int) (d : Nat) (src : List Char) (ts : List Tok)
    (h : inlineParse (linkChain cls ext lx newline escape backticks strike emphasis link autolink htmlInline entity mn d)
      (linkPost strike emphasis) fragJoin mn src = .ok ts) : ∀ t ∈ ts, LTok ext lx t :=
  parse_toks2 strike emphasis (ltok_closed ext lx strike emphasis) _
    (linkChain_adds2 cls ext lx newline escape backticks strike emphasis link autolink htmlInline entity mn d) fragJoin mn src ts h

/-- the reference table holds only acceptable destinations (what the `reference` block rule — not in the modelled sub-parser —
    is to guarantee: it stores `normalizeLink(dest)` after `validateLink`) -/
def RefsOK (lx : LExt) : Prop :=
  ∀ l h t, lx.refs l = some (h, t) → (∀ c ∈ h, SafeAscii c)
    ∧ ((∀ d ∈ Gen.badProtos, browserScheme h ≠ some d.toList) ∨ matchesGoodData (lowerAscii h) = true)

/-- a destination that is empty or acceptable to a browser -/
def DestOK (dest : List Char) : Prop :=
  dest = [] ∨ ((∀ ch ∈ dest, SafeAscii ch)
    ∧ ((∀ d ∈ Gen.badProtos, browserScheme dest ≠ some d.toList) ∨ matchesGoodData (lowerAscii dest) = true))

theorem destOK_of_src (ext : IExt) (lx : LExt) (hrefs : RefsOK lx) (dest : List Char) (hsrc : LinkSrc ext lx dest) : DestOK dest := by
  rcases hsrc with h0 | ⟨u, hu, hv⟩ | ⟨l, t', hr⟩
  · exact .inl h0
  · right; rw [hu]; exact ⟨encode_range _, api ext.reformat u hv⟩
  · right; exact hrefs l dest t' hr

/-- **C05.link_hrefs** — inline links, reference links and autolinks in the modelled inline sub-parser with the `link` rule, for every
reference table whose entries are acceptable (`RefsOK`): every `link_open` carries an `href` (its first attribute) that is empty, or
URL-safe ASCII that a browser does not read as one of the dangerous schemes (unless a whitelisted `data:image/…;`) -/
theorem link_hrefs (cls : QCls) (ext : IExt) (lx : LExt) (hrefs : RefsOK lx)
    (newline escape backticks strike emphasis link autolink htmlInline entity fragJoin : Bool) (mn : Int) (d : Nat) (src : List Char) (ts : List Tok)
    (h : inlineParse (linkChain cls ext lx newline escape backticks strike emphasis link autolink htmlInline entity mn d)
      (linkPost strike emphasis) fragJoin mn src = .ok ts) (t : Tok) (ht : t ∈ ts) (hty : t.type = "link_open") :
    ∃ href : List Char, t.attrs.head? = some ("href", .s (String.ofList href)) ∧
      (href = [] ∨ ((∀ ch ∈ href, SafeAscii ch)
        ∧ ((∀ d ∈ Gen.badProtos, browserScheme href ≠ some d.toList) ∨ matchesGoodData (lowerAscii href) = true))) := by
  obtain ⟨href, ha, hsrc⟩ := link_sources cls ext lx newline escape backticks strike emphasis link autolink htmlInline entity fragJoin mn d src ts h t ht hty
  exact ⟨href, ha, destOK_of_src ext lx hrefs href hsrc⟩

/-! non-vacuity: an accepted inline link, a rejected one (stays text), a reference link -/
example : C01.itypesOf (inlineParse (linkChain C02f.asciiCls ext0 C01.lx0 true true true false true true true false false 20 22) (linkPost false true) true 20
      "[a](http://x.y \"t\") [b](javascript:z) [c][r]".toList)
    = some ["link_open", "text", "link_close", "text", "link_open", "text", "link_close"] := by decide +kernel

end MdIt.C05
