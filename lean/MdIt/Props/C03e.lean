import MdIt.Props.C03d
import MdIt.Props.C02h
/-!
# C03 (continued) — source maps of the block sub-parser with `html_block` and `lheading`

The map contract of the two rules is read off their leaf forms: an `html_block` token's map is `[startLine, nextLine)`; a setext
heading's opening token spans the content lines and the underline, its inline token the content lines only.
-/
namespace MdIt.C03
open MdIt.C01 MdIt.C02

theorem mapOK_htmlBlock (P) (codeOn htmlOn : Bool) : MapOK P (ruleHtmlBlock codeOn htmlOn) :=
  C03.mapOK_of_leaf (html_shape P codeOn htmlOn) fun s _ _ _ _ h ⟨_, _, _, _, hseg⟩ => hseg ▸ mapsIn_leaf h s _ _ _ _ _ _ _

theorem mapOK_lheadingE (P : BState → Nat → Prop) (codeOn : Bool) (terms : List BRule) (hin : ∀ t ∈ terms, SilentInertE t) (ws : List Nat) :
    MapOK P (ruleLheading codeOn terms ws) :=
  C03.mapOK_of_leaf (lheading_shapeE P codeOn terms hin ws) fun s line _ n _ h ⟨_, _, _, _, _, _, hseg, next, _, hn, hlt, _, _, hm1, hm2⟩ => by
    subst hn hseg hm1 hm2
    exact mapsIn_triple s _ _ _ _ _ _ _ ⟨Nat.le_refl _, h, Nat.le_refl _⟩ ⟨Nat.le_refl _, hlt, Nat.le_succ _⟩

theorem mapOK_leavesM (P : BState → Nat → Prop) (c : MCfg) {pt : List BRule} (hpt : ∀ t ∈ pt, SilentInertE t) (ws : List Nat) :
    ∀ r ∈ leavesM c pt ws, MapOK P r :=
  forall_leavesM (mapOK_leaves P c.toMiniCfg hpt ws) (fun _ => mapOK_htmlBlock _ _ _) (fun _ => mapOK_lheadingE _ _ _ hpt ws)

theorem mChain_maps (c : MCfg) (ws : List Nat) (mn : Int) : ∀ d : Nat,
    (∀ r ∈ mChain c ws mn d, MapOK (Lv mn d) r) ∧ InnerMapsOf mn d (mChain c ws mn d) :=
  tower_maps (mTower c ws mn) (mChain_ok c ws mn) (fun _ => mapOK_list mn)
    (mapOK_leavesM · c (inertE_of_inert (mTerminators_inert c ws mn)) ws)

/-- **C03.m_staged** — with block quotes and lists nested in each other to any depth: the top-level blocks of the stream are staged
inside the document (maps in range, non-empty, increasing, disjoint), and every token of a stage, at whatever depth inside quotes
and lists, has its map inside the stage's line range.  That a token between a container's opening and closing token (quote, list, list
item) has its map inside that container's map, at every depth, is proved on the way (`mapOK_blockquote`, `mapOK_list`; items:
`ItemChain`) and not recorded in the statement. -/
theorem m_staged (c : MCfg) (ws : List Nat) (maxNesting : Int) (src : List Char) (ts : List Tok)
    (h : mParse c ws maxNesting src = .ok ts) : Staged 0 (initBState (normalize src)).lineMax ts := by
  obtain ⟨st, hst, rfl⟩ := parseWith_state h
  exact parse_staged maxNesting _ (mChain_ok c ws maxNesting _).1 (mChain_maps c ws maxNesting _).1 src st hst

end MdIt.C03
