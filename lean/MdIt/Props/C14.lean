import MdIt.Instance
import MdIt.Proofs.Reset
/-!
# C14 — an exception escaping from user code leaves the instance intact

Model: `MdIt/Instance.lean` (`runEvents` for parse/render with a fault plan; `resetRules`).
-/
namespace MdIt.C14

theorem get_set (m : Rulers) (w v : Which) (r : Ruler) : (m.set w r).get v = if v = w then r else m.get v := by
  cases w <;> cases v <;> rfl

theorem getRules_event (m : Rulers) (w : Which) (c : String) (h : ∀ v, (m.get v).Coherent) (v : Which) :
    ((m.set w ((m.get w).getRules c).1).get v).rules = (m.get v).rules
    ∧ ((m.set w ((m.get w).getRules c).1).get v).Coherent := by
  rw [get_set]
  by_cases hv : v = w
  · subst hv
    rw [if_pos rfl]
    exact ⟨(getRules_spec _ (h v) c).2.2, (getRules_spec _ (h v) c).2.1⟩
  · rw [if_neg hv]
    exact ⟨rfl, h v⟩

/-- **C14.parse_intact** — whatever sequence of chain requests and user-callback invocations a
parse/render performs, and whichever invocation raises (any fault plan): afterwards every ruler has
the same rules (hence the same active rules), the options and render-rule table are untouched, and
every ruler is coherent (what will be applied next is what is reported). -/
theorem parse_intact (plan : Plan) (i : Inst) (evs : List Ev) (seen : List (Nat × Nat))
    (h : ∀ w, (i.rulers.get w).Coherent) :
    (∀ w, ((runEvents plan i evs seen).1.rulers.get w).rules = (i.rulers.get w).rules)
    ∧ (runEvents plan i evs seen).1.options = i.options
    ∧ (runEvents plan i evs seen).1.renderRules = i.renderRules
    ∧ (∀ w, ((runEvents plan i evs seen).1.rulers.get w).Coherent) := by
  induction evs generalizing i seen with
  | nil => exact ⟨fun _ => rfl, rfl, rfl, h⟩
  | cons ev rest ih =>
    cases ev with
    | getRules w c =>
      simp only [runEvents]
      have hev := getRules_event i.rulers w c h
      have := ih { i with rulers := i.rulers.set w ((i.rulers.get w).getRules c).1 } seen (fun v => (hev v).2)
      exact ⟨fun v => (this.1 v).trans (hev v).1, this.2.1, this.2.2.1, this.2.2.2⟩
    | call slot =>
      simp only [runEvents]
      cases plan slot (runEvents.dictGetN seen slot) with
      | some e => exact ⟨fun _ => rfl, rfl, rfl, h⟩
      | none => exact ih i _ h

/-- the exception propagates: the outcome is either normal, or exactly a user exception that the
plan contains; with an empty plan the call returns normally -/
theorem parse_outcome (plan : Plan) (i : Inst) (evs : List Ev) (seen : List (Nat × Nat)) :
    (runEvents plan i evs seen).2 = .ok () ∨
    ∃ e slot k, plan slot k = some e ∧ (runEvents plan i evs seen).2 = .error (.userRaised e) := by
  induction evs generalizing i seen with
  | nil => exact Or.inl rfl
  | cons ev rest ih =>
    cases ev with
    | getRules w c => simp only [runEvents]; exact ih _ _
    | call slot =>
      simp only [runEvents]
      cases hp : plan slot (runEvents.dictGetN seen slot) with
      | some e => exact Or.inr ⟨e, slot, _, hp, rfl⟩
      | none => exact ih _ _

theorem parse_no_fault (i : Inst) (evs : List Ev) (seen : List (Nat × Nat)) :
    (runEvents (fun _ _ => none) i evs seen).2 = .ok () :=
  (parse_outcome _ i evs seen).resolve_right fun ⟨_, _, _, h, _⟩ => nomatch h

/-- rule names only grow (rules are inserted, never removed or renamed) -/
def NamesGrow (m m' : Rulers) : Prop := ∀ w, (m.get w).allRules.Sublist (m'.get w).allRules

def BodyOK (f : Body) : Prop := ∀ m, NamesGrow m (f m).1

theorem restore_spec (m1 : Rulers) (snap : Active)
    (hn : ∀ w, ((m1.get w).rules.map (·.name)).Nodup)
    (hc : snap.core.Sublist m1.core.allRules) (hb : snap.block.Sublist m1.block.allRules)
    (hi : snap.inline.Sublist m1.inline.allRules) (hi2 : snap.inline2.Sublist m1.inline2.allRules) :
    (m1.restore snap).2 = .ok () ∧ (m1.restore snap).1.active = snap
    ∧ ∀ w, ((m1.restore snap).1.get w).allRules = (m1.get w).allRules := by
  have ec := enableOnly_restores m1.core snap.core (hn .core) hc
  have eb := enableOnly_restores m1.block snap.block (hn .block) hb
  have ei := enableOnly_restores m1.inline snap.inline (hn .inline) hi
  have ei2 := enableOnly_restores m1.inline2 snap.inline2 (hn .inline2) hi2
  simp only [Rulers.restore, ec.2.1, eb.2.1, ei.2.1, ei2.2.1]
  refine ⟨trivial, ?_, ?_⟩
  · simp only [Rulers.active, ec.1, eb.1, ei.1, ei2.1]
  · intro w
    cases w with
    | core => exact ec.2.2
    | block => exact eb.2.2
    | inline => exact ei.2.2
    | inline2 => exact ei2.2.2

/-- **C14.reset_restores** (reset_rules) — for every body (any operations, raising or not) that keeps rule names
distinct, on every exit path: the active rules afterwards are the active rules on entry (rules
added inside are left disabled), the rule lists are those the body left, and the body's outcome —
in particular its exception — is what the caller sees. -/
theorem reset_restores (m : Rulers) (body : Body) (hb : BodyOK body)
    (hn : ∀ w, (((body m).1.get w).rules.map (·.name)).Nodup) :
    (resetRules m body).1.active = m.active
    ∧ (resetRules m body).2 = (body m).2
    ∧ ∀ w, ((resetRules m body).1.get w).allRules = ((body m).1.get w).allRules := by
  have hg := hb m
  have hs := restore_spec (body m).1 m.active hn
    ((active_sublist_all m.core).trans (hg .core)) ((active_sublist_all m.block).trans (hg .block))
    ((active_sublist_all m.inline).trans (hg .inline)) ((active_sublist_all m.inline2).trans (hg .inline2))
  simp only [resetRules]
  generalize hr : (body m).1.restore m.active = res at hs
  obtain ⟨m2, r2⟩ := res
  simp only at hs
  obtain ⟨h1, h2, h3⟩ := hs
  subst h1
  exact ⟨h2, rfl, h3⟩

/-! closure: the bodies the property quantifies over are `BodyOK` -/

theorem bodyOK_raise (e : Nat) : BodyOK (Body.raise e) := fun _ _ => List.Sublist.refl _

theorem bodyOK_rop (w : Which) (op : ROp) : BodyOK (Body.rop w op) := by
  intro m v
  simp only [Body.rop]
  rw [get_set]
  by_cases hv : v = w
  · subst hv; rw [if_pos rfl]; exact step_names_sublist _ _
  · rw [if_neg hv]; exact List.Sublist.refl _

theorem bodyOK_setMany (b : Bool) (names : List String) (ign : Bool) : BodyOK (Body.setMany b names ign) := by
  intro m v
  show (m.get v).allRules.Sublist ((m.setMany b names ign).1.get v).allRules
  rw [setMany_names]
  exact List.Sublist.refl _

theorem bodyOK_seq (f g : Body) (hf : BodyOK f) (hg : BodyOK g) : BodyOK (Body.seq f g) := by
  intro m
  simp only [Body.seq]
  have h1 := hf m
  cases hfm : f m with
  | mk m1 r =>
    rw [hfm] at h1
    cases r with
    | ok _ => exact fun w => (h1 w).trans (hg m1 w)
    | error e => exact h1

/-- nested blocks: a `reset_rules` block is itself a body that only grows names (when the inner
    body keeps names distinct) -/
theorem bodyOK_reset (inner : Body) (hi : BodyOK inner)
    (hn : ∀ m w, (((inner m).1.get w).rules.map (·.name)).Nodup) : BodyOK (Body.reset inner) := by
  intro m w
  simp only [Body.reset]
  rw [(reset_restores m inner hi (hn m)).2.2 w]
  exact hi m w

/-! non-vacuity -/

def isUser (e : Nat) : Except PyErr Unit → Bool
  | .error (.userRaised k) => k == e
  | _ => false

def demoBody : Body :=
  Body.seq (Body.setMany false ["emphasis"] false)
    (Body.seq (Body.rop .inline (.push "myrule" 999 [])) (Body.raise 7))

/-- a body that disables a rule, adds one, and raises: entry state is restored, exception propagates -/
example : (resetRules Rulers.fresh demoBody).1.active = Rulers.fresh.active := by decide
example : isUser 7 (resetRules Rulers.fresh demoBody).2 = true := by decide
example : ((resetRules Rulers.fresh demoBody).1.inline.allRules).contains "myrule" = true := by decide
/-- … and `demoBody` meets the hypotheses of `reset_restores` -/
example : BodyOK demoBody :=
  bodyOK_seq _ _ (bodyOK_setMany _ _ _) (bodyOK_seq _ _ (bodyOK_rop _ _) (bodyOK_raise _))
example : ∀ w, (((demoBody Rulers.fresh).1.get w).rules.map (·.name)).Nodup := by
  intro w; cases w <;> decide

/-- `reset_rules` without `try/finally`: the raise skips the restore -/
def resetRulesOld (m : Rulers) (body : Body) : Rulers × Except PyErr Unit :=
  let snap := m.active
  match body m with
  | (m1, .error e) => (m1, .error e)
  | (m1, .ok _) => let (m2, r2) := m1.restore snap; (m2, r2)

example : (resetRulesOld Rulers.fresh
    (Body.seq (Body.setMany false ["emphasis"] false) (Body.raise 7))).1.active ≠ Rulers.fresh.active := by
  decide

/-- why the distinct-names hypothesis is there: a rule inserted *before* an existing rule under the
same name captures the snapshot entry (the code has the same behaviour; adding duplicate names is
outside what the property quantifies over) -/
example :
    (resetRules Rulers.fresh (Body.rop .inline (.before "emphasis" "emphasis" 999 []))).1.inline.rules.filterMap
      (fun r => if r.enabled && r.name == "emphasis" then some r.fn else none) = [999] := by decide

end MdIt.C14
