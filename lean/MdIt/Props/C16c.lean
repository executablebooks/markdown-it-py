import MdIt.Props.C16b
/-!
# C16 — only the `reference` rule writes the env tables: rules, loops and containers hand them on

`references` and `duplicate_refs` are assigned by the `reference` rule alone; every other rule, the loops, the terminator chains and the
container rules with their line-table rewriting and nested runs keep any invariant `J` of the two tables.  This is a fact about which
fields a rule assigns, so no contract of the engine theorems is needed.  The `reference` rule keeps `J` if `refHit` does; the instance
here is "every recorded destination is validated" (what C05's href theorems assume of the table).
-/
namespace MdIt.C16
open MdIt.C01 MdIt.C05

/-- the part of the state the invariant reads -/
def RD (s : BState) : List (List Char × List Char × List Char) × List (List Char × List Char × List Char) := (s.refs, s.dups)

def Untouched (r : BRule) : Prop := ∀ s line endLine silent m s', r s line endLine silent = .ok (m, s') → RD s' = RD s

def Keeps (J : BState → Prop) (r : BRule) : Prop := ∀ s line endLine silent m s', J s → r s line endLine silent = .ok (m, s') → J s'

def OnTables (J : BState → Prop) : Prop := ∀ s s', RD s' = RD s → J s → J s'

theorem keeps_of_untouched {J : BState → Prop} (hJ : OnTables J) {r : BRule} (h : Untouched r) : Keeps J r :=
  fun s line endLine silent m s' hj hr => hJ s s' (h s line endLine silent m s' hr) hj

-- no branch of these rules assigns `refs` or `dups`: every result is an exception, or a state whose tables are those of `s` by `rfl`

theorem untouched_hr (codeOn : Bool) : Untouched (ruleHr codeOn) := by
  intro s l e sil m s'
  fun_cases ruleHr codeOn s l e sil
  all_goals intro h; cases h <;> rfl

theorem untouched_code (codeOn : Bool) : Untouched (ruleCode codeOn) := by
  intro s l e sil m s'
  fun_cases ruleCode codeOn s l e sil
  all_goals intro h; cases h <;> rfl

theorem untouched_heading (codeOn : Bool) (ws : List Nat) : Untouched (ruleHeading codeOn ws) := by
  intro s l e sil m s'
  fun_cases ruleHeading codeOn ws s l e sil
  all_goals intro h; cases h <;> rfl

theorem untouched_fence (codeOn : Bool) : Untouched (ruleFence codeOn) := by
  intro s l e sil m s'
  fun_cases ruleFence codeOn s l e sil
  all_goals intro h; cases h <;> rfl

theorem untouched_htmlBlock (codeOn htmlOn : Bool) : Untouched (ruleHtmlBlock codeOn htmlOn) := by
  intro s l e sil m s'
  fun_cases ruleHtmlBlock codeOn htmlOn s l e sil
  all_goals intro h; cases h <;> rfl

/-- a result that, if it is a value, carries a state satisfying `J` -/
def OKW {α : Type} (f : α → BState) (J : BState → Prop) (x : Except PyErr α) : Prop := ∀ a, x = .ok a → J (f a)

theorem okw_error {α : Type} (f : α → BState) (J : BState → Prop) (e : PyErr) : OKW f J (.error e) := fun _ h => by cases h
theorem okw_ok {α : Type} (f : α → BState) (J : BState → Prop) (a : α) (h : J (f a)) : OKW f J (.ok a) := fun _ he => by cases he; exact h

variable {J : BState → Prop} {ts rs terms inner rules : List BRule}

theorem runTerminators_keeps (hts : ∀ t ∈ ts, Keeps J t) : ∀ (s : BState) (line endLine : Nat), J s →
    OKW (·.2) J (runTerminators ts s line endLine) := by
  induction ts with
  | nil => intro s line endLine hj; exact okw_ok _ _ _ hj
  | cons t rest ih =>
    intro s line endLine hj
    simp only [runTerminators]
    split
    · exact okw_error _ _ _
    · rename_i s' heq; exact okw_ok _ _ _ (hts t List.mem_cons_self s line endLine true true s' hj heq)
    · rename_i s' heq
      exact ih (fun t' ht' => hts t' (List.mem_cons_of_mem _ ht')) s' line endLine (hts t List.mem_cons_self s line endLine true false s' hj heq)

theorem runBlockChain_keeps (hrs : ∀ r ∈ rs, Keeps J r) : ∀ (s : BState) (line endLine : Nat), J s →
    OKW (·.2) J (runBlockChain rs s line endLine) := by
  induction rs with
  | nil => intro s line endLine hj; exact okw_ok _ _ _ hj
  | cons r rest ih =>
    intro s line endLine hj
    simp only [runBlockChain]
    split
    · exact okw_error _ _ _
    · rename_i s' heq; exact okw_ok _ _ _ (hrs r List.mem_cons_self s line endLine false true s' hj heq)
    · rename_i s' heq
      exact ih (fun r' hr' => hrs r' (List.mem_cons_of_mem _ hr')) s' line endLine (hrs r List.mem_cons_self s line endLine false false s' hj heq)

theorem paraScan_keeps (hts : ∀ t ∈ terms, Keeps J t) (endLine : Nat) : ∀ (fuel next : Nat) (s : BState), J s →
    OKW (·.2) J (paraScan terms endLine fuel next s) := by
  intro fuel next s
  fun_induction paraScan terms endLine fuel next s
  all_goals intro hj
  case case1 | case2 | case6 => exact okw_error _ _ _
  case case3 | case9 => exact okw_ok _ _ _ hj
  case case4 ih | case5 ih => exact ih hj
  case case7 ht => exact okw_ok _ _ _ (runTerminators_keeps hts _ _ _ hj _ ht)
  case case8 ht ih => exact ih (runTerminators_keeps hts _ _ _ hj _ ht)

theorem lheadScan_keeps (hts : ∀ t ∈ terms, Keeps J t) (endLine : Nat) : ∀ (fuel next : Nat) (s : BState), J s →
    OKW (·.2.2) J (lheadScan terms endLine fuel next s) := by
  intro fuel next s
  fun_induction lheadScan terms endLine fuel next s
  all_goals intro hj
  case case1 | case2 | case7 => exact okw_error _ _ _
  case case3 | case5 | case10 => exact okw_ok _ _ _ hj
  case case4 ih | case6 ih => exact ih hj
  case case8 ht => exact okw_ok _ _ _ (runTerminators_keeps hts _ _ _ hj _ ht)
  case case9 ht ih => exact ih (runTerminators_keeps hts _ _ _ hj _ ht)

theorem keeps_paragraph (hJ : OnTables J) (hts : ∀ t ∈ terms, Keeps J t) (ws : List Nat) : Keeps J (ruleParagraph terms ws) := by
  intro s line endLine silent m s' hj
  fun_cases ruleParagraph terms ws s line endLine silent
  all_goals intro h
  case case3 =>
    have hs := ‹paraScan terms _ _ _ _ = Except.ok _›
    have h1 := paraScan_keeps hts _ _ _ _ (hJ s _ (by rfl) hj) _ hs
    cases h
    exact hJ _ _ (by rfl) h1
  all_goals cases h

theorem keeps_lheading (hJ : OnTables J) (codeOn : Bool) (hts : ∀ t ∈ terms, Keeps J t) (ws : List Nat) : Keeps J (ruleLheading codeOn terms ws) := by
  intro s line endLine silent m s' hj
  fun_cases ruleLheading codeOn terms ws s line endLine silent
  all_goals intro h
  case case2 => cases h; exact hj
  case case4 | case6 =>
    have hs := ‹lheadScan terms _ _ _ _ = Except.ok _›
    have h1 := lheadScan_keeps hts _ _ _ _ (hJ s _ (by rfl) hj) _ hs
    cases h
    exact hJ _ _ (by rfl) h1
  all_goals cases h

theorem refsValid_onTables (ext : IExt) : OnTables (RefsValid ext) := by
  intro s s' h hv
  unfold RD at h
  simp only [Prod.mk.injEq] at h
  unfold RefsValid
  rw [h.1, h.2]
  exact hv

theorem keeps_reference_of (hJ : OnTables J) (ext : IExt) (lx : LExt) (inlineDefs codeOn : Bool)
    (hhit : ∀ (s s1 : BState) (line : Nat) (str : List Char) (d : RefParsed), refParse ext lx.normRef str = some d → J s1 →
      J (refHit lx inlineDefs s s1 line d))
    (hts : ∀ t ∈ terms, Keeps J t) (ws : List Nat) : Keeps J (ruleReference ext lx inlineDefs codeOn terms ws) := by
  intro s line endLine silent m s' hj hr
  rcases reference_result hr with rfl | ⟨next, s1, hs, h⟩
  · exact hj
  · have h1 : J s1 := paraScan_keeps hts _ _ _ { s with parentType := "reference" } (hJ s _ rfl hj) (next, s1) hs
    rcases h with rfl | ⟨c, d, hd, rfl⟩
    · exact h1
    · exact hhit s s1 line _ d hd h1

/-- **the `reference` rule keeps "every recorded destination is validated"**, with no assumption on the call -/
theorem keeps_reference (ext : IExt) (lx : LExt) (inlineDefs codeOn : Bool) (hts : ∀ t ∈ terms, Keeps (RefsValid ext) t) (ws : List Nat) :
    Keeps (RefsValid ext) (ruleReference ext lx inlineDefs codeOn terms ws) :=
  keeps_reference_of (refsValid_onTables ext) ext lx inlineDefs codeOn
    (fun s s1 line _ d hd h1 => refHit_valid ext lx inlineDefs s s1 line d h1 (refParse_valid ext lx.normRef _ d hd).1) hts ws

theorem setLine_RD (s : BState) (i : Nat) (l : BLine) : RD (s.setLine i l) = RD s := rfl
theorem pushFull_RD (s : BState) (a b : String) (n : Int) (m : Option (Nat × Nat)) (c : Option (List Tok)) (x y z : String) :
    RD (s.pushFull a b n m c x y z) = RD s := rfl

theorem quoteScan_keeps (hJ : OnTables J) (hts : ∀ t ∈ terms, Keeps J t) (endLine : Nat) :
    ∀ (fuel next : Nat) (lastEmpty : Bool) (s : BState) (saved : List BLine), J s →
      OKW (·.2.1) J (quoteScan terms endLine fuel next lastEmpty s saved) := by
  intro fuel next le s saved
  fun_induction quoteScan terms endLine fuel next le s saved
  all_goals intro hj
  case case1 | case2 | case6 | case7 | case10 => exact okw_error _ _ _   -- out of fuel; a line read or the terminators raised
  case case3 | case5 | case12 => exact okw_ok _ _ _ hj                  -- stops: empty line, after an empty line, end of range
  case case4 ih => exact ih (hJ _ _ (by rfl) hj)                        -- a `>` line: marker stripped, scan on
  -- after the terminator chain: the state it returned, with line tables rewritten
  case case8 | case9 =>
    have h1 := runTerminators_keeps hts _ _ _ hj _ ‹runTerminators terms _ _ _ = .ok _›
    exact okw_ok _ _ _ (hJ _ _ (by rfl) h1)
  case case11 ih =>                                                     -- lazy continuation line
    have h1 := runTerminators_keeps hts _ _ _ hj _ ‹runTerminators terms _ _ _ = .ok _›
    exact ih (hJ _ _ (by rfl) h1)

theorem blockLoop_keeps (hJ : OnTables J) (hrs : ∀ r ∈ rules, Keeps J r) (mn : Int) (endLine : Nat) :
    ∀ (fuel line : Nat) (hasEmpty : Bool) (s : BState), J s → OKW id J (blockLoop rules mn endLine fuel line hasEmpty s) := by
  intro fuel line he s
  fun_induction blockLoop rules mn endLine fuel line he s
  all_goals intro hj
  -- the three cases that loop: the chain keeps `J`, and the loop itself writes only `line` and `tight`
  case case11 ih | case12 ih | case13 ih =>
    refine ih (hJ _ _ ?_ (runBlockChain_keeps hrs _ _ _ (hJ _ _ ?_ hj) _ ‹runBlockChain rules _ _ _ = .ok _›))
    all_goals rfl
  case case2 | case14 => exact okw_ok _ _ _ hj                                   -- nothing left in the range
  case case1 | case4 | case7 | case8 | case9 | case10 => exact okw_error _ _ _   -- out of fuel, a line read, the chain, no progress
  case case3 | case5 | case6 => exact okw_ok _ _ _ (hJ _ _ (by rfl) hj)           -- early exits: only `line` is written

theorem blockTokenize_keeps (hJ : OnTables J) (hrs : ∀ r ∈ rules, Keeps J r) (mn : Int) (s : BState) (a b : Nat) (hj : J s) :
    OKW id J (blockTokenize rules mn s a b) := blockLoop_keeps hJ hrs mn b _ _ _ s hj

theorem keeps_blockquote (hJ : OnTables J) (codeOn : Bool) (hts : ∀ t ∈ terms, Keeps J t) (hin : ∀ r ∈ inner, Keeps J r) (mn : Int) :
    Keeps J (ruleBlockquote codeOn terms inner mn) := by
  intro s line endLine silent m s' hj
  fun_cases ruleBlockquote codeOn terms inner mn s line endLine silent
  all_goals intro h
  -- a match: the scan, the nested run, the restored line tables
  case case7 =>
    have hs := ‹quoteScan terms _ _ _ _ _ _ = Except.ok _›
    have h2 := quoteScan_keeps hJ hts _ _ _ _ _ _ (hJ s _ (by rfl) hj) _ hs
    have hb := ‹blockTokenize inner mn _ _ _ = Except.ok _›
    have h4 := blockTokenize_keeps hJ hin mn _ _ _ (hJ _ _ (by rfl) h2) _ hb
    cases h
    refine hJ _ _ ?_ h4
    show RD (restoreLines _ _ _) = _
    rw [restoreLines_eq]
    rfl
  all_goals cases h <;> exact hj

theorem listItem_keeps (hJ : OnTables J) (ordered : Bool) (mc : Char) (hin : ∀ r ∈ inner, Keeps J r) (mn : Int) (endLine : Nat) (s : BState)
    (startLine markerLen : Nat) (hj : J s) : OKW (·.1) J (listItem ordered mc inner mn endLine s startLine markerLen) := by
  intro ⟨s6, nt, pe⟩ h
  -- the tables the item returns are those its nested part left: the entry tables, or what the nested run made of them
  obtain ⟨l, s3, lcur, _, h3, rfl⟩ := listItem_result h
  refine hJ s3 _ rfl ?_
  rcases h3 with rfl | h3
  · exact hJ s _ rfl hj
  · exact blockTokenize_keeps hJ hin mn (itemEnter ordered mc s l startLine markerLen) _ _ (hJ s _ rfl hj) s3 h3

theorem listItems_keeps (hJ : OnTables J) (codeOn ordered : Bool) (mc : Char) (hts : ∀ t ∈ terms, Keeps J t) (hin : ∀ r ∈ inner, Keeps J r)
    (mn : Int) (endLine : Nat) : ∀ (fuel : Nat) (st : ListSt), J st.s →
      OKW (·.s) J (listItems codeOn ordered mc terms inner mn endLine fuel st) := by
  intro fuel st
  fun_induction listItems codeOn ordered mc terms inner mn endLine fuel st
  all_goals intro hj
  case case1 | case3 => exact okw_error _ _ _          -- out of fuel; the item raised
  case case2 => exact okw_ok _ _ _ hj                  -- end of range
  -- the item has been parsed
  all_goals have h6 := listItem_keeps hJ ordered mc hin mn endLine _ _ _ hj _ ‹listItem ordered mc inner mn endLine _ _ _ = .ok _›
  case case5 | case8 => exact okw_error _ _ _          -- a line read or the terminators raised
  case case4 | case6 | case7 => exact okw_ok _ _ _ h6  -- end of range, dedent, code line
  -- the terminator chain has answered
  all_goals have h7 := runTerminators_keeps hts _ _ _ h6 _ ‹runTerminators terms _ _ _ = .ok _›
  case case9 | case10 | case11 => exact okw_ok _ _ _ h7  -- a terminator fired, no marker, another marker character
  case case12 ih => exact ih h7                          -- next item

theorem listRun_keeps (hJ : OnTables J) (codeOn ordered : Bool) (mc : Char) (mlen mv : Nat) (hts : ∀ t ∈ terms, Keeps J t)
    (hin : ∀ r ∈ inner, Keeps J r) (mn : Int) (s : BState) (startLine endLine : Nat) (hj : J s) :
    OKW (·.2) J (listRun codeOn ordered mc mlen mv terms inner mn s startLine endLine) := by
  rw [listRun_eq]
  split
  · exact okw_error _ _ _
  · rename_i st heq
    have hst : J st.s := by
      refine listItems_keeps hJ codeOn ordered mc hts hin mn endLine _ _ (hJ s _ ?_ hj) st heq
      rw [listOpenState_eq]; rfl
    refine okw_ok _ _ _ (hJ st.s _ ?_ hst)
    rw [listFinish_eq]; rfl

theorem keeps_list (hJ : OnTables J) (codeOn : Bool) (hts : ∀ t ∈ terms, Keeps J t) (hin : ∀ r ∈ inner, Keeps J r) (mn : Int) :
    Keeps J (ruleList codeOn terms inner mn) := by
  intro s line endLine silent m s' hj
  fun_cases ruleList codeOn terms inner mn s line endLine silent
  all_goals intro h
  case case9 => exact listRun_keeps hJ codeOn _ _ _ _ hts hin mn s line endLine hj (m, s') h
  all_goals cases h <;> exact hj

end MdIt.C16
