import MdIt.Props.C03c
import MdIt.Props.C02d
/-!
# C03 (continued) — source maps of the sub-parser with block quotes and lists

The list rule keeps the map contract: a list's patched map `[startLine, state.line)` encloses its items, items have non-empty,
increasing, adjacent ranges, and an item's map encloses what its nested run produced.
-/
namespace MdIt.C03
open MdIt.C01 MdIt.C02

def InnerMapsL (c : MiniCfg) (ws : List Nat) (mn : Int) (d : Nat) : Prop :=
  ∀ (s : BState) (startLine endLine : Nat) (s' : BState), s.lineMax + 1 ≤ s.lines.length → endLine ≤ s.lineMax → Lv mn d s endLine →
    blockTokenize (lChain c ws mn d) mn s startLine endLine = .ok s' →
    ∃ new, s'.tokens = s.tokens ++ new ∧ Staged startLine s'.line new

theorem mapsIn_hid {a b : Nat} {seg seg' : List Tok} (hh : HidEq seg' seg) (h : MapsIn a b seg) : MapsIn a b seg' := by
  intro t ht x y hm
  obtain ⟨u, hu, he⟩ := hh.mem ht
  exact h u hu x y ((hidden_eq_fields he).2.2.2.1 ▸ hm)

theorem itemChain_mapsIn {s : BState} {a e : Nat} {toks : List Tok}
    (h : ItemChain (fun _ a b seg => a < b → MapsIn a b seg) s a e toks) : ∀ lo, lo ≤ a → MapsIn lo e toks := by
  induction h with
  | nil => intro lo _ t ht; cases ht
  | cons a b e seg rest h1 h2 h3 ih =>
    intro lo hlo t ht x y hm
    have hbe := h3.le
    rcases List.mem_append.1 ht with ht | ht
    · have := h2 h1 t ht x y hm; omega
    · have := ih lo (by omega) t ht x y hm; exact this

theorem mapOK_list (mn : Int) (d : Nat) (codeOn : Bool) (terms : List BRule) (hin : ∀ t ∈ terms, SilentInert t)
    (inner : List BRule) (hinner : InnerOK mn d inner) (hmaps : InnerMapsOf mn d inner) :
    MapOK (Lv mn (d + 1)) (ruleList codeOn terms inner mn) := by
  have key := list_shape mn d codeOn terms hin inner hinner
  refine ⟨?_, ?_⟩
  · intro s line endLine s' hc h
    obtain ⟨ordered, mc, mlen, mv, hrun⟩ := ruleList_hit _ _ _ _ _ _ _ _ h
    have hitem : ∀ (s : BState) (startLine markerLen : Nat) (s6 : BState) (nt pe : Bool), s.lineMax + 1 ≤ s.lines.length → endLine ≤ s.lineMax →
        startLine < endLine → s.line = startLine → mn + 1 ≤ s.level + 1 + (d : Int) →
        listItem ordered mc inner mn endLine s startLine markerLen = .ok (s6, nt, pe) →
        ∃ seg, s6.tokens = s.tokens ++ seg ∧ (startLine < s6.line → MapsIn startLine s6.line seg) := by
      -- that the item's range is not empty is recorded by the chain (`ItemChain.cons`)
      intro s startLine markerLen s6 nt pe hlen hend hlt hline hlv hit
      obtain ⟨s2, s3, openT, closeT, h2t, h2l, h2m, h2len, hnest, htok, _, _, _, _, _, _, hcm, h6l, _⟩ :=
        listItem_tokens _ _ _ _ _ _ _ _ _ _ _ hit
      rw [h6l]
      rcases hnest with ⟨h3t, _⟩ | hrun3
      · exact ⟨_, htok [] (by rw [h3t]; simp), fun hgt6 => mapsIn_wrapped hgt6 openT closeT hcm [] (fun t ht => by cases ht)⟩
      · obtain ⟨new, hs3, hst⟩ := hmaps s2 startLine endLine s3 (by rw [h2m, h2len]; exact hlen) (by rw [h2m]; exact hend)
          (by unfold Lv; rw [h2l]; omega) hrun3
        exact ⟨_, htok _ hs3, fun hgt6 => mapsIn_wrapped hgt6 openT closeT hcm new hst.mapsIn⟩
    obtain ⟨s2, openT, closeT, toks, seg', _, hchain, hlt, htok, hhid, _, _, _, _, _, _, hcm⟩ :=
      listRun_tokens (fun _ a b seg => a < b → MapsIn a b seg) (fun _ _ _ _ _ _ h => h) mn d codeOn ordered mc mlen mv
        terms hin inner hinner s line endLine hitem hc s' hrun
    exact ⟨seg', htok, mapsIn_hid hhid (mapsIn_wrapped hlt openT closeT hcm toks (itemChain_mapsIn hchain line (Nat.le_refl _)))⟩
  · exact fun s line endLine s' hc h => by rw [miss_of_cases (key s line endLine hc) h]

theorem lChain_maps (c : MiniCfg) (ws : List Nat) (mn : Int) : ∀ d : Nat,
    (∀ r ∈ lChain c ws mn d, MapOK (Lv mn d) r) ∧ InnerMapsL c ws mn d :=
  tower_maps (lTower c ws mn) (lChain_ok c ws mn) (fun _ => mapOK_list mn)
    (mapOK_leaves · c (inertE_of_inert (lTerminators_inert c ws mn)) ws)

/-- **C03.l_staged** — with block quotes and lists nested in each other to any depth: the top-level blocks of the stream are staged
inside the document (maps in range, non-empty, increasing, disjoint), and every token of a stage, at whatever depth inside quotes
and lists, has its map inside the stage's line range.  That a token between a container's opening and closing token (quote, list, list
item) has its map inside that container's map, at every depth, is proved on the way (`mapOK_blockquote`, `mapOK_list`; items:
`ItemChain`) and not recorded in the statement. -/
theorem l_staged (c : MiniCfg) (ws : List Nat) (maxNesting : Int) (src : List Char) (ts : List Tok)
    (h : lParse c ws maxNesting src = .ok ts) : Staged 0 (initBState (normalize src)).lineMax ts := by
  obtain ⟨st, hst, rfl⟩ := parseWith_state h
  exact parse_staged maxNesting _ (lChain_ok c ws maxNesting _).1 (lChain_maps c ws maxNesting _).1 src st hst

end MdIt.C03
