import MdIt.Block
import MdIt.Props.C01
/-!
# C03 — source maps are in range, non-empty, nested and ordered, and cover the input

Engine level: under the map contract of the rules (`MapOK`, monitored on every real rule call), the tokens a
block loop adds come in *stages* (`Staged`): stage i holds the tokens pushed by the rule dispatched at line aᵢ,
their maps lie in `[aᵢ, bᵢ)` with `aᵢ < bᵢ ≤ aᵢ₊₁`.
-/
namespace MdIt.C03

/-- every map in `seg` is a non-empty range inside `[a, b)` -/
def MapsIn (a b : Nat) (seg : List Tok) : Prop :=
  ∀ t ∈ seg, ∀ x y, t.map = some (x, y) → a ≤ x ∧ x < y ∧ y ≤ b

/-- the map contract of a rule.  Not an instance of `C02.SegOK`: the range ends at the `line` of the state the rule returns. -/
structure MapOK (P : BState → Nat → Prop) (r : BRule) : Prop where
  hit : ∀ s line endLine s', CallCtx P s line endLine → r s line endLine false = .ok (true, s') →
    ∃ seg, s'.tokens = s.tokens ++ seg ∧ MapsIn line s'.line seg
  miss : ∀ s line endLine s', CallCtx P s line endLine → r s line endLine false = .ok (false, s') → s'.tokens = s.tokens

/-- tokens added in stages with increasing, disjoint line ranges inside `[lo, hi]` -/
inductive Staged : Nat → Nat → List Tok → Prop where
  | nil (lo hi : Nat) : Staged lo hi []
  | stage {lo hi : Nat} (a b : Nat) (seg rest : List Tok) :
      lo ≤ a → a < b → b ≤ hi → MapsIn a b seg → Staged b hi rest → Staged lo hi (seg ++ rest)

theorem Staged.weaken {lo lo' hi : Nat} {ts : List Tok} (h : Staged lo hi ts) (hl : lo' ≤ lo) : Staged lo' hi ts := by
  cases h with
  | nil => exact .nil _ _
  | stage a b seg rest h1 h2 h3 h4 h5 => exact .stage a b seg rest (Nat.le_trans hl h1) h2 h3 h4 h5

theorem Staged.weaken_hi {lo hi hi' : Nat} {ts : List Tok} (h : Staged lo hi ts) (hh : hi ≤ hi') : Staged lo hi' ts := by
  induction h with
  | nil => exact .nil _ _
  | stage a b seg rest h1 h2 h3 h4 _ ih => exact .stage a b seg rest h1 h2 (Nat.le_trans h3 hh) h4 (ih hh)

theorem Staged.mapsIn {lo hi : Nat} {ts : List Tok} (h : Staged lo hi ts) : MapsIn lo hi ts := by
  induction h with
  | nil => intro t ht; cases ht
  | stage a b seg rest h1 h2 h3 h4 _ ih =>
    intro t ht x y hm
    rcases List.mem_append.1 ht with ht | ht
    · have := h4 t ht x y hm; omega
    · have := ih t ht x y hm; omega

theorem loop_line_ge (P : BState → Nat → Prop) (hP : FrameClosed P) (rules : List BRule) (hok : ∀ r ∈ rules, RuleOK P r)
    (maxNesting : Int) (endLine : Nat) :
    ∀ (fuel line : Nat) (hasEmpty : Bool) (s s' : BState), s.lineMax + 1 ≤ s.lines.length → endLine ≤ s.lineMax →
      P s endLine → blockLoop rules maxNesting endLine fuel line hasEmpty s = .ok s' →
      (line < endLine → line ≤ s'.line) ∧ (¬ line < endLine → s' = s) := by
  intro fuel line he s s' hlen hend hPs h
  have hpost := (C01.loop_post P hP rules hok maxNesting endLine fuel line he s s' hlen hend hPs h).2
  exact ⟨fun hlt => (hpost.1 hlt).1, hpost.2⟩

/-- **C03.loop_maps_final** — the stages end no later than the line the loop finally stands on -/
theorem loop_maps_final (P : BState → Nat → Prop) (hP : FrameClosed P) (rules : List BRule) (hok : ∀ r ∈ rules, RuleOK P r)
    (hmap : ∀ r ∈ rules, MapOK P r) (maxNesting : Int) (endLine : Nat) :
    ∀ (fuel line : Nat) (hasEmpty : Bool) (s s' : BState), s.lineMax + 1 ≤ s.lines.length → endLine ≤ s.lineMax →
      P s endLine → blockLoop rules maxNesting endLine fuel line hasEmpty s = .ok s' →
      ∃ new, s'.tokens = s.tokens ++ new ∧ Staged line s'.line new := by
  intro fuel line he s s' hlen hend hPs h
  refine (C01.loop_induct P hP rules hok maxNesting endLine
    (M := fun line s s' => ∃ new, s'.tokens = s.tokens ++ new ∧ Staged line s'.line new)
    ?done ?leave ?cut ?step fuel line he s s' hlen hend hPs h).1
  case done => exact fun _ _ _ => ⟨[], (List.append_nil _).symm, .nil _ _⟩
  case leave => exact fun _ _ _ _ _ _ => ⟨[], (List.append_nil _).symm, .nil _ _⟩
  case cut => exact fun _ _ _ _ => ⟨[], (List.append_nil _).symm, .nil _ _⟩
  case step =>
    -- the block dispatched at `l1` is one more stage `[l1, s2.line)` in front of those of the rest of the run
    intro line l1 l' s s2 s' b h1 hctx hc _ hp h3 h5 _ ⟨new', hn1, hn2⟩
    obtain ⟨r, hr, s0, hc0, _, ht0, hr0⟩ := C01.chain_hit P hP rules hok (fun r hr => (hmap r hr).miss) _ _ _ _ hctx hc
    obtain ⟨seg, hseg, hmaps⟩ := (hmap r hr).hit _ _ _ _ hc0 hr0
    dsimp only at hn1 ht0
    exact ⟨seg ++ new', by rw [hn1, hseg, ht0, List.append_assoc],
      .stage l1 s2.line seg new' h1 hp (Nat.le_trans h3 h5) hmaps (hn2.weaken h3)⟩

/-- **C03.loop_maps_staged** — whatever the rule chain (contracts assumed), whenever a block loop
over `[line, endLine)` returns, the tokens it added are staged inside `[line, lineMax]`: their maps
are in range, non-empty, and sibling blocks never overlap or go backwards.  (The bound is `lineMax`, not
`endLine`: the last block of a nested range may legitimately end beyond it — see `RuleOK.progress`; for a
top-level loop the two coincide.) -/
theorem loop_maps_staged (P : BState → Nat → Prop) (hP : FrameClosed P) (rules : List BRule) (hok : ∀ r ∈ rules, RuleOK P r)
    (hmap : ∀ r ∈ rules, MapOK P r) (maxNesting : Int) (endLine : Nat) :
    ∀ (fuel line : Nat) (hasEmpty : Bool) (s s' : BState), s.lineMax + 1 ≤ s.lines.length → endLine ≤ s.lineMax →
      P s endLine → blockLoop rules maxNesting endLine fuel line hasEmpty s = .ok s' →
      ∃ new, s'.tokens = s.tokens ++ new ∧ Staged line s.lineMax new := by
  intro fuel line he s s' hlen hend hPs h
  have hpost := (C01.loop_post P hP rules hok maxNesting endLine fuel line he s s' hlen hend hPs h).2
  by_cases hlt : line < endLine
  · obtain ⟨new, hn, hst⟩ := loop_maps_final P hP rules hok hmap maxNesting endLine fuel line he s s' hlen hend hPs h
    exact ⟨new, hn, hst.weaken_hi (hpost.1 hlt).2.1⟩
  · exact ⟨[], by rw [hpost.2 hlt, List.append_nil], .nil _ _⟩

/-- **C03.container_map** — maps nest: every map in a token list staged inside `[startLine, stateLine)` is enclosed by that range.
This is how a container rule (block quote, list item) encloses its content: it patches the end of its own map to the line its
nested loop ended on, `state.line`, and by `loop_maps_final` the tokens of that loop are staged up to there. -/
theorem container_map (startLine stateLine : Nat) (inner : List Tok) (h : Staged startLine stateLine inner) :
    ∀ t ∈ inner, ∀ x y, t.map = some (x, y) → startLine ≤ x ∧ y ≤ stateLine := by
  intro t ht x y hm
  have := h.mapsIn t ht x y hm
  omega

end MdIt.C03
