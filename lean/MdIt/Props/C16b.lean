import MdIt.BlockRef
import MdIt.Props.C01h
import MdIt.Props.C05c
/-!
# C16 — the `reference` block rule on its own: contract, and what it records is validated

The theorems of this file belong to C16 (what the parse records in `env`).  The contract is stated in the terms of C01's block engine
(`CallCtx`, K1–K4), and validity is the hypothesis `RefsOK` of C05's href theorems, discharged here for what this rule writes.

For every call the block loop can make (`CallCtx`), every terminator chain of inert rules, every seeded env and external functions, a
call is a miss that leaves the state alone, a miss after the continuation scan that leaves `parentType = "reference"` behind (the leak
that observation O4 of DESIGN.md §0.4 has in `lheading`), or a match (`refHit`) that moves `state.line` forward, appends at most the
`definition` token and records exactly one entry, with an `href = normalizeLink(dest)` that `validateLink` accepted.

Not proved: `state.line ≤ lineMax` (K3) for this rule.  `state.line = startLine + lines + 1` counts the line feeds of the *string* cut
from the scanned lines; bounding it needs "no line text holds a line feed", which the call context does not carry — so the chain-level
theorems stay on the chains without `reference`, and the ten-rule chain is covered by the tie.
-/
namespace MdIt.C16
open MdIt.C01 MdIt.C05

/-- a destination the rule may store: `normalizeLink` of something, accepted by `validateLink` -/
def ValidHref (ext : IExt) (h : List Char) : Prop := ∃ u, h = ext.normLink u ∧ validateLink h = true

theorem refParse_valid (ext : IExt) (nr : List Char → List Char) (str : List Char) (d : RefParsed) (h : refParse ext nr str = some d) :
    ValidHref ext d.href ∧ d.label = nr d.raw ∧ d.label ≠ [] := by
  revert h
  fun_cases refParse ext nr str
  all_goals intro h; cases h
  -- the one path that yields a definition: the destination was validated, the normalised label is not empty
  refine ⟨⟨_, rfl, by simpa using ‹¬(!validateLink _) = true›⟩, rfl, fun he => ‹¬(nr _).isEmpty = true› ?_⟩
  rw [show nr _ = [] from he]; rfl

/-- the state after a match: `state.line` set, the `definition` token if asked for, one entry recorded, `parentType` restored -/
def refHit (lx : LExt) (inlineDefs : Bool) (s s1 : BState) (startLine : Nat) (d : RefParsed) : BState :=
  let newLine := startLine + d.lines + 1
  let tok : Tok := .mk "definition" "" 0 [] (some (startLine, newLine)) s1.level none "" "" ""
    [("id", String.ofList d.label), ("title", String.ofList d.title), ("url", String.ofList d.href), ("label", String.ofList d.raw)] true false
  let s2 := { s1 with line := newLine, tokens := if inlineDefs then s1.tokens ++ [tok] else s1.tokens }
  let known := (lx.hasRefs && (lx.refs d.label).isSome) || (lookupRef s2.refs d.label).isSome
  let s3 := if known then { s2 with dups := s2.dups ++ [(d.label, d.href, d.title)] }
            else { s2 with refs := s2.refs ++ [(d.label, d.href, d.title)] }
  { s3 with parentType := s.parentType }

/-- for terminators that are inert only on ranges inside the line tables — the table rule among them, as in `tChain` -/
theorem reference_shapeE (P : BState → Nat → Prop) (ext : IExt) (lx : LExt) (inlineDefs codeOn : Bool) (terms : List BRule)
    (hin : ∀ t ∈ terms, SilentInertE t) (ws : List Nat) (s : BState) (line endLine : Nat) (hc : CallCtx P s line endLine) :
    ruleReference ext lx inlineDefs codeOn terms ws s line endLine false = .ok (false, s)
    ∨ ruleReference ext lx inlineDefs codeOn terms ws s line endLine false = .ok (false, { s with parentType := "reference" })
    ∨ ∃ next c d, line + 1 ≤ next ∧ next ≤ s.lineMax ∧ getLinesB { s with parentType := "reference" } line next s.blkIndent false = .ok c
        ∧ refParse ext lx.normRef (pyStrip ws c) = some d
        ∧ ruleReference ext lx inlineDefs codeOn terms ws s line endLine false
            = .ok (true, refHit lx inlineDefs s { s with parentType := "reference" } line d) := by
  obtain ⟨l, hl1, hl2, _⟩ := hc.here
  have hlenM : s.lineMax < s.lines.length := by have := hc.len; omega
  obtain ⟨r, h1, h2, h3⟩ := paraScan_okE terms hin { s with parentType := "reference" } s.lineMax hlenM
    (s.lineMax - line + 1) (line + 1) (by omega) (by have := hc.lt; have := hc.le; omega)
  obtain ⟨c, hcx⟩ := getLinesB_ok { s with parentType := "reference" } line r s.blkIndent false (by show r ≤ s.lines.length; omega)
  have hg := getL_of_here hl1
  fun_cases ruleReference ext lx inlineDefs codeOn terms ws s line endLine false
  case case1 h => rw [hg] at h; cases h
  case case2 | case3 | case5 | case6 => exact .inl rfl
  case case4 h _ hb _ =>  -- the line is not blank
    rw [hg] at h; cases h
    have := congrArg List.length hb
    simp only [BLine.body, BLine.empty, List.length_drop, List.length_nil, decide_eq_false_iff_not, Nat.not_le] at this hl2
    omega
  case case7 h => rw [h1] at h; cases h
  case case8 hp _ h => rw [h1] at hp; cases hp; rw [hcx] at h; cases h
  case case9 hp _ _ _ => rw [h1] at hp; cases hp; exact .inr (.inl rfl)
  case case10 h => cases h
  case case11 =>
    have hp := ‹paraScan terms _ _ _ _ = .ok _›
    rw [h1] at hp; cases hp
    exact .inr (.inr ⟨r, _, _, h2, h3, ‹getLinesB _ _ _ _ _ = .ok _›, ‹refParse _ _ _ = some _›, rfl⟩)

theorem reference_shape (P : BState → Nat → Prop) (ext : IExt) (lx : LExt) (inlineDefs codeOn : Bool) (terms : List BRule)
    (hin : ∀ t ∈ terms, SilentInert t) (ws : List Nat) (s : BState) (line endLine : Nat) (hc : CallCtx P s line endLine) :
    ruleReference ext lx inlineDefs codeOn terms ws s line endLine false = .ok (false, s)
    ∨ ruleReference ext lx inlineDefs codeOn terms ws s line endLine false = .ok (false, { s with parentType := "reference" })
    ∨ ∃ next c d, line + 1 ≤ next ∧ next ≤ s.lineMax ∧ getLinesB { s with parentType := "reference" } line next s.blkIndent false = .ok c
        ∧ refParse ext lx.normRef (pyStrip ws c) = some d
        ∧ ruleReference ext lx inlineDefs codeOn terms ws s line endLine false
            = .ok (true, refHit lx inlineDefs s { s with parentType := "reference" } line d) :=
  reference_shapeE P ext lx inlineDefs codeOn terms (inertE_of_inert hin) ws s line endLine hc

theorem reference_result {ext : IExt} {lx : LExt} {inlineDefs codeOn : Bool} {terms : List BRule} {ws : List Nat} {s : BState}
    {line endLine : Nat} {silent m : Bool} {s' : BState} :
    ruleReference ext lx inlineDefs codeOn terms ws s line endLine silent = .ok (m, s') →
    s' = s ∨ ∃ next s1, paraScan terms s.lineMax (s.lineMax - line + 1) (line + 1) { s with parentType := "reference" } = .ok (next, s1) ∧
      (s' = s1 ∨ ∃ c d, refParse ext lx.normRef (pyStrip ws c) = some d ∧ s' = refHit lx inlineDefs s s1 line d) := by
  fun_cases ruleReference ext lx inlineDefs codeOn terms ws s line endLine silent
  all_goals intro h
  -- after the scan: no definition, silent mode, a definition recorded
  case case9 | case10 => cases h; exact .inr ⟨_, _, ‹paraScan terms _ _ _ _ = .ok _›, .inl rfl⟩
  case case11 => cases h; exact .inr ⟨_, _, ‹paraScan terms _ _ _ _ = .ok _›, .inr ⟨_, _, ‹refParse _ _ _ = some _›, rfl⟩⟩
  all_goals cases h <;> exact .inl rfl

/-- **the contract of the `reference` rule** (K1, K2, K4, forward progress) -/
theorem reference_contract (P : BState → Nat → Prop) (ext : IExt) (lx : LExt) (inlineDefs codeOn : Bool) (terms : List BRule)
    (hin : ∀ t ∈ terms, SilentInert t) (ws : List Nat) (s : BState) (line endLine : Nat) (hc : CallCtx P s line endLine) :
    ∃ m s', ruleReference ext lx inlineDefs codeOn terms ws s line endLine false = .ok (m, s')
      ∧ s.FrameEq s' ∧ (m = false → s'.line = s.line ∧ s'.tokens = s.tokens ∧ s'.refs = s.refs ∧ s'.dups = s.dups)
      ∧ (m = true → line < s'.line ∧ s'.parentType = s.parentType) := by
  rcases reference_shape P ext lx inlineDefs codeOn terms hin ws s line endLine hc with h | h | ⟨next, c, d, _, _, _, _, h⟩
  · exact ⟨false, s, h, frameEq_refl s, (fun _ => ⟨rfl, rfl, rfl, rfl⟩), (fun hm => by cases hm)⟩
  · exact ⟨false, _, h, ⟨⟨rfl, rfl⟩, rfl, rfl, rfl⟩, (fun _ => ⟨rfl, rfl, rfl, rfl⟩), (fun hm => by cases hm)⟩
  · refine ⟨true, _, h, ?_, (fun hm => by cases hm), (fun _ => ?_)⟩
    · unfold refHit; simp only; split <;> exact ⟨⟨rfl, rfl⟩, rfl, rfl, rfl⟩
    · unfold refHit; simp only; split
      · exact ⟨by show line < line + d.lines + 1; omega, by simp⟩
      · exact ⟨by show line < line + d.lines + 1; omega, by simp⟩

def RefsValid (ext : IExt) (s : BState) : Prop :=
  (∀ e ∈ s.refs, ValidHref ext e.2.1) ∧ (∀ e ∈ s.dups, ValidHref ext e.2.1)

theorem refHit_tables (lx : LExt) (inlineDefs : Bool) (s s1 : BState) (line : Nat) (d : RefParsed) :
    ((refHit lx inlineDefs s s1 line d).refs = s1.refs ++ [(d.label, d.href, d.title)] ∧ (refHit lx inlineDefs s s1 line d).dups = s1.dups ∧
        ((lx.hasRefs && (lx.refs d.label).isSome) || (lookupRef s1.refs d.label).isSome) = false)
      ∨ ((refHit lx inlineDefs s s1 line d).refs = s1.refs ∧ (refHit lx inlineDefs s s1 line d).dups = s1.dups ++ [(d.label, d.href, d.title)]) := by
  unfold refHit
  simp only
  split
  · exact .inr ⟨rfl, rfl⟩
  · exact .inl ⟨rfl, rfl, Bool.eq_false_iff.mpr ‹¬ _›⟩

theorem refHit_valid (ext : IExt) (lx : LExt) (inlineDefs : Bool) (s s1 : BState) (line : Nat) (d : RefParsed) (h1 : RefsValid ext s1)
    (hd : ValidHref ext d.href) : RefsValid ext (refHit lx inlineDefs s s1 line d) := by
  have hadd : ∀ l : List (List Char × List Char × List Char), (∀ e ∈ l, ValidHref ext e.2.1) →
      ∀ e ∈ l ++ [(d.label, d.href, d.title)], ValidHref ext e.2.1 := by
    intro l hl e he
    rcases List.mem_append.1 he with he | he
    · exact hl e he
    · rw [List.mem_singleton] at he; subst he; exact hd
  unfold RefsValid
  rcases refHit_tables lx inlineDefs s s1 line d with ⟨e1, e2, _⟩ | ⟨e1, e2⟩
  · rw [e1, e2]; exact ⟨hadd _ h1.1, h1.2⟩
  · rw [e1, e2]; exact ⟨h1.1, hadd _ h1.2⟩

/-- **C16.reference_records_valid** (for C16 and C05) — whatever the call returns, the tables it leaves hold validated destinations if they did
before: a match appends exactly one entry, `(label, normalizeLink(dest), title)` with `validateLink` true, to one of them -/
theorem reference_records_valid (P : BState → Nat → Prop) (ext : IExt) (lx : LExt) (inlineDefs codeOn : Bool) (terms : List BRule)
    (hin : ∀ t ∈ terms, SilentInert t) (ws : List Nat) (s : BState) (line endLine : Nat) (hc : CallCtx P s line endLine) (m : Bool) (s' : BState)
    (h : ruleReference ext lx inlineDefs codeOn terms ws s line endLine false = .ok (m, s')) (hv : RefsValid ext s) :
    RefsValid ext s' ∧ (m = true → ∃ d : RefParsed, ValidHref ext d.href ∧ d.label ≠ [] ∧
      ((s'.refs = s.refs ++ [(d.label, d.href, d.title)] ∧ s'.dups = s.dups) ∨ (s'.refs = s.refs ∧ s'.dups = s.dups ++ [(d.label, d.href, d.title)]))) := by
  rcases reference_shape P ext lx inlineDefs codeOn terms hin ws s line endLine hc with h' | h' | ⟨next, c, d, _, _, _, hd, h'⟩
  · rw [h'] at h; cases h; exact ⟨hv, (fun hm => by cases hm)⟩
  · rw [h'] at h; cases h; exact ⟨hv, (fun hm => by cases hm)⟩
  · rw [h'] at h
    simp only [Except.ok.injEq, Prod.mk.injEq] at h
    obtain ⟨rfl, rfl⟩ := h
    obtain ⟨hvalid, _, hne⟩ := refParse_valid ext lx.normRef _ d hd
    refine ⟨refHit_valid ext lx inlineDefs s _ line d hv hvalid, fun _ => ⟨d, hvalid, hne, ?_⟩⟩
    rcases refHit_tables lx inlineDefs s { s with parentType := "reference" } line d with ⟨e1, e2, _⟩ | ⟨e1, e2⟩
    · exact .inl ⟨e1, e2⟩
    · exact .inr ⟨e1, e2⟩

/-- the hypothesis `RefsOK` of `C05.link_hrefs` / `image_hrefs` / `full_hrefs`, discharged for what the `reference` rule writes -/
theorem envAfter_refsOK (ext : IExt) (lx : LExt) (s : BState) (hlx : RefsOK lx) (hv : RefsValid ext s) : RefsOK (envAfter lx s) := by
  intro l h t hr
  unfold envAfter at hr
  simp only at hr
  split at hr
  · rename_i r hr0
    simp only [Option.some.injEq] at hr
    subst hr
    split at hr0
    · exact hlx l h t hr0
    · cases hr0
  · unfold lookupRef at hr
    cases hf : s.refs.find? (·.1 == l) with
    | none => rw [hf] at hr; cases hr
    | some e =>
      rw [hf] at hr
      simp only [Option.map_some, Option.some.injEq] at hr
      have hmem := List.mem_of_find?_eq_some hf
      obtain ⟨u, hu, hval⟩ := hv.1 e hmem
      have he : e.2.1 = h := by rw [hr]
      rw [he] at hu hval
      rw [hu]
      rw [hu] at hval
      exact ⟨encode_range _, api ext.reformat u hval⟩

end MdIt.C16
