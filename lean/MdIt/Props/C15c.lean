import MdIt.Props.C15
import MdIt.Props.C15b
/-!
# C15 (continued) — a round-tripped stream renders to the same HTML

A well-formed stream converted token by token to dictionaries (either attribute format, children converted or left as objects) and
back is the stream itself (`roundtrip_list`), and so is the flattened syntax tree (`C15.tree_roundtrip`): whatever the renderer makes
of the original — the HTML, or the error — it makes of either.
-/
namespace MdIt.C15

/-- `[Token.from_dict(t.as_dict(...)) for t in tokens]` -/
def roundtripList (up ch : Bool) : List Tok → Except PyErr (List Tok)
  | [] => .ok []
  | t :: rest =>
    match fromDict (asDict up ch t) with
    | .error e => .error e
    | .ok t' =>
      match roundtripList up ch rest with
      | .error e => .error e
      | .ok r => .ok (t' :: r)

theorem roundtrip_list (up ch : Bool) : ∀ ts : List Tok, (∀ t ∈ ts, t.WF) → roundtripList up ch ts = .ok ts
  | [], _ => rfl
  | t :: rest, h => by
    simp only [roundtripList, dict_roundtrip up ch t (h t (by simp)), roundtrip_list up ch rest (fun u hu => h u (by simp [hu]))]

/-- **C15.roundtrip_renders_same** — the dictionary round trip of a well-formed stream renders as the stream does -/
theorem roundtrip_renders_same (up ch : Bool) (x : Ext) (o : ROpts) (ts : List Tok) (h : ∀ t ∈ ts, t.WF) :
    ∃ ts', roundtripList up ch ts = .ok ts' ∧ render x o ts' = render x o ts :=
  ⟨ts, roundtrip_list up ch ts h, rfl⟩

/-- **C15.tree_renders_same** — `SyntaxTreeNode(tokens).to_tokens()` renders as `tokens` does -/
theorem tree_renders_same (x : Ext) (o : ROpts) (ts : List Tok) (f : List Node) (h : buildTree ts = .ok f) :
    render x o (Node.toTokensList f) = render x o ts := by
  rw [tree_roundtrip ts f h]

end MdIt.C15
