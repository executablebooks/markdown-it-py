import MdIt.Inline
import MdIt.Tree
import MdIt.Proofs.TokFields
/-!
# C02 — token streams are well nested, correctly levelled and tree-constructible

Here: the push discipline (`StateInline.push`; `StateBlock.push` has the same bookkeeping) keeps every token's level equal to
its depth at that point; `fragments_join` leaves the stream levelled and `text_join` leaves it without `text_special` or adjacent
`text` tokens; a stream whose nestings are balanced always builds a syntax tree.  What is not proved is listed under
`not_covered_by_theorems` in the evidence.
-/
namespace MdIt.C02

/-- every token's `level` equals the depth at that point, starting from depth `d` -/
def levelsOK : Int → List Tok → Prop
  | _, [] => True
  | d, t :: ts =>
    t.level = (if t.nesting < 0 then d - 1 else d)
    ∧ levelsOK ((if t.nesting < 0 then d - 1 else d) + (if t.nesting > 0 then 1 else 0)) ts

def depthAfter : Int → List Tok → Int
  | d, [] => d
  | d, t :: ts => depthAfter ((if t.nesting < 0 then d - 1 else d) + (if t.nesting > 0 then 1 else 0)) ts

theorem levelsOK_append (d : Int) (a b : List Tok) :
    levelsOK d (a ++ b) ↔ levelsOK d a ∧ levelsOK (depthAfter d a) b := by
  induction a generalizing d with
  | nil => simp [levelsOK, depthAfter]
  | cons t ts ih => simp only [List.cons_append, levelsOK, depthAfter, ih, and_assoc]

theorem depthAfter_append (d : Int) (a b : List Tok) : depthAfter d (a ++ b) = depthAfter (depthAfter d a) b := by
  induction a generalizing d with
  | nil => rfl
  | cons t ts ih => simp only [List.cons_append, depthAfter, ih]

/-- same nesting and level, position by position: all that `levelsOK`, `depthAfter` and `balancedFrom` read of a token -/
def SameNL : List Tok → List Tok → Prop
  | [], [] => True
  | a :: as, b :: bs => a.nesting = b.nesting ∧ a.level = b.level ∧ SameNL as bs
  | _, _ => False

theorem SameNL.refl : ∀ l : List Tok, SameNL l l
  | [] => trivial
  | _ :: l => ⟨rfl, rfl, SameNL.refl l⟩

theorem SameNL.trans : ∀ {a b c : List Tok}, SameNL a b → SameNL b c → SameNL a c
  | [], [], [], _, _ => trivial
  | _ :: _, _ :: _, _ :: _, h1, h2 => ⟨h1.1.trans h2.1, h1.2.1.trans h2.2.1, SameNL.trans h1.2.2 h2.2.2⟩
  | [], [], _ :: _, _, h2 => by cases h2
  | [], _ :: _, _, h1, _ => by cases h1
  | _ :: _, [], _, h1, _ => by cases h1
  | _ :: _, _ :: _, [], _, h2 => by cases h2

theorem sameNL_of_map_eq {β : Type} {f : Tok → β} (hf : ∀ t u, f t = f u → t.nesting = u.nesting ∧ t.level = u.level) :
    ∀ {a b : List Tok}, a.map f = b.map f → SameNL a b
  | [], [], _ => trivial
  | t :: _, u :: _, h => by
    rw [List.map_cons, List.map_cons, List.cons.injEq] at h
    exact ⟨(hf t u h.1).1, (hf t u h.1).2, sameNL_of_map_eq hf h.2⟩
  | [], _ :: _, h => by cases h
  | _ :: _, [], h => by cases h

theorem sameNL_modify (f : Tok → Tok) (hn : ∀ t, (f t).nesting = t.nesting) (hl : ∀ t, (f t).level = t.level) :
    ∀ (ts : List Tok) (j : Nat), SameNL (ts.modify j f) ts
  | [], _ => by rw [List.modify_nil]; trivial
  | t :: ts, 0 => by rw [List.modify_zero_cons]; exact ⟨hn t, hl t, SameNL.refl ts⟩
  | _ :: ts, j + 1 => by rw [List.modify_succ_cons]; exact ⟨rfl, rfl, sameNL_modify f hn hl ts j⟩

theorem levelsOK_congr : ∀ (a b : List Tok) (d : Int), SameNL a b → (levelsOK d a ↔ levelsOK d b)
  | [], [], _, _ => Iff.rfl
  | x :: xs, y :: ys, d, h => by
    simp only [levelsOK]
    rw [h.1, h.2.1]
    exact and_congr Iff.rfl (levelsOK_congr xs ys _ h.2.2)
  | [], _ :: _, _, h => by cases h
  | _ :: _, [], _, h => by cases h

theorem depthAfter_congr : ∀ (a b : List Tok) (d : Int), SameNL a b → depthAfter d a = depthAfter d b
  | [], [], _, _ => rfl
  | x :: xs, y :: ys, d, h => by
    simp only [depthAfter]
    rw [h.1]
    exact depthAfter_congr xs ys _ h.2.2
  | [], _ :: _, _, h => by cases h
  | _ :: _, [], _, h => by cases h

theorem balancedFrom_congr : ∀ (a b : List Tok) (d : Int), SameNL a b → balancedFrom d a = balancedFrom d b
  | [], [], _, _ => rfl
  | x :: xs, y :: ys, d, h => by
    simp only [balancedFrom]
    rw [h.1, balancedFrom_congr xs ys _ h.2.2]
  | [], _ :: _, _, h => by cases h
  | _ :: _, [], _, h => by cases h

/-- state invariant of the inline tokenizer; the last conjunct: pending text will be flushed at the current depth -/
def LevelInv (s : IState) : Prop :=
  levelsOK 0 s.tokens ∧ depthAfter 0 s.tokens = s.level ∧ s.pendingLevel = s.level

theorem pushPending_inv (s : IState) (h : LevelInv s) : LevelInv s.pushPending := by
  obtain ⟨h1, h2, h3⟩ := h
  refine ⟨?_, ?_, h3⟩
  · simp only [IState.pushPending]
    rw [levelsOK_append]
    refine ⟨h1, ?_⟩
    simp [levelsOK, mkInlineTok, Tok.level, Tok.nesting, h2, h3]
  · simp only [IState.pushPending, depthAfter_append]
    simp [depthAfter, mkInlineTok, Tok.nesting, h2]

/-- **C02.push_levels** — `push` (with or without pending text to flush first, for nesting −1, 0
or +1 alike) preserves the invariant: hence every stream built by pushes from the initial state has
each token's level equal to its depth. -/
theorem push_levels (s : IState) (h : LevelInv s) (type tag : String) (nesting : Int)
    (content markup info : String) : LevelInv (s.push type tag nesting content markup info) := by
  simp only [IState.push]
  have h' : LevelInv (if s.pending.isEmpty then s else s.pushPending) := by
    split
    · exact h
    · exact pushPending_inv s h
  generalize (if s.pending.isEmpty then s else s.pushPending) = s1 at h'
  obtain ⟨h1, h2, h3⟩ := h'
  refine ⟨?_, ?_, rfl⟩
  · simp only
    rw [levelsOK_append]
    refine ⟨h1, ?_⟩
    simp [levelsOK, mkInlineTok, Tok.level, Tok.nesting, h2]
  · simp only [depthAfter_append]
    simp only [depthAfter, mkInlineTok, Tok.nesting, h2]
    by_cases ha : nesting < 0 <;> by_cases hb : nesting > 0 <;> simp [ha, hb] <;> omega

theorem init_inv (src : List Char) : LevelInv (IState.init src) := by
  simp [LevelInv, IState.init, levelsOK, depthAfter]

/-- **C02.fragmentsJoin_levels** — whatever the emphasis/strikethrough post-processing did to the
nestings, after `fragments_join` every token's level is the depth computed from the nestings of the
resulting stream.  Hypothesis (forced by the proof, true of every stream the tokenizer builds: `text`
tokens are created with nesting 0 and the post-processing changes type and nesting together): a
`text` token has nesting 0 — a merged-away `text` token with another nesting would shift the depth
of everything after it. -/
theorem fragmentsJoin_levels (level : Int) (ts : List Tok)
    (htext : ∀ t ∈ ts, t.type = "text" → t.nesting = 0) : levelsOK level (fragmentsJoin level ts) := by
  fun_induction fragmentsJoin level ts with
  | case1 => trivial
  | case2 level t =>
    simp [levelsOK]
  | case3 level t n rest lvl level' hmerge ih =>
    simp only [Bool.and_eq_true, beq_iff_eq] at hmerge
    have h0 : t.nesting = 0 := htext t (by simp) hmerge.1
    have e : level' = level := by simp only [level', lvl, h0]; simp
    refine (congrArg (fun x => levelsOK x (fragmentsJoin level' (n.setContent (t.content ++ n.content) :: rest))) e).mp (ih ?_)
    intro u hu hty
    simp only [List.mem_cons] at hu
    rcases hu with rfl | hu
    · rw [Tok.setContent_nesting]
      exact htext n (by simp) (by rw [← Tok.setContent_type n (t.content ++ n.content)]; exact hty)
    · exact htext u (by simp [hu]) hty
  | case4 level t n rest lvl level' hmerge ih =>
    simp only [levelsOK, Tok.setLevel_nesting, Tok.setLevel_level]
    refine ⟨rfl, ?_⟩
    have e : level' = lvl + (if t.nesting > 0 then 1 else 0) := by
      simp only [level']; split <;> simp
    exact (congrArg (fun x => levelsOK x (fragmentsJoin level' (n :: rest))) e).mp
      (ih (fun u hu hty => htext u (by simp at hu ⊢; exact Or.inr hu) hty))

/-- no `text_special` token, no two adjacent `text` tokens -/
def Flat : List Tok → Prop
  | [] => True
  | [t] => t.type ≠ "text_special"
  | t :: n :: rest => t.type ≠ "text_special" ∧ ¬ (t.type = "text" ∧ n.type = "text") ∧ Flat (n :: rest)

theorem flat_append_single (acc : List Tok) (t : Tok) (hacc : Flat acc) (ht : t.type ≠ "text_special")
    (hadj : ∀ l, acc.getLast? = some l → ¬ (l.type = "text" ∧ t.type = "text")) : Flat (acc ++ [t]) := by
  induction acc with
  | nil => exact ht
  | cons a rest ih =>
    cases rest with
    | nil =>
      simp only [List.cons_append, List.nil_append, Flat]
      exact ⟨hacc, hadj a (by simp), ht⟩
    | cons b rest' =>
      simp only [Flat] at hacc
      simp only [List.cons_append, Flat]
      refine ⟨hacc.1, hacc.2.1, ?_⟩
      apply ih hacc.2.2
      intro l hl
      exact hadj l (by simpa using hl)

theorem flat_types : ∀ (a b : List Tok), a.map (·.type) = b.map (·.type) → Flat a → Flat b
  | [], [], _, h => h
  | [x], [y], e, h => by
    simp only [List.map_cons, List.map_nil, List.cons.injEq, and_true] at e
    show y.type ≠ "text_special"
    rw [← e]; exact h
  | x :: x' :: xs, y :: y' :: ys, e, h => by
    simp only [List.map_cons, List.cons.injEq] at e
    obtain ⟨e1, e2, e3⟩ := e
    refine ⟨?_, ?_, flat_types (x' :: xs) (y' :: ys) (by simp only [List.map_cons, e2, e3]) h.2.2⟩
    · rw [← e1]; exact h.1
    · rw [← e1, ← e2]; exact h.2.1
  | [], _ :: _, e, _ => by cases e
  | _ :: _, [], e, _ => by cases e
  | [_], _ :: _ :: _, e, _ => by simp at e
  | _ :: _ :: _, [_], e, _ => by simp at e

theorem joinOne_type (t : Tok) : (joinOne t).type ≠ "text_special" := by
  cases t with
  | mk ty tag n a m l c co mu i md b h =>
    by_cases h1 : ty = "text_special"
    · subst h1; simp [joinOne, Tok.type]
    · have h1' : (ty == "text_special") = false := by simpa using h1
      by_cases h2 : ty = "image"
      · subst h2; simp [joinOne, Tok.type]
      · have h2' : (ty == "image") = false := by simpa using h2
        simp [joinOne, Tok.type, h1', h2', h1]

theorem joinPush_flat (acc : List Tok) (t : Tok) (hacc : Flat acc) (ht : t.type ≠ "text_special") :
    Flat (joinPush acc t) := by
  unfold joinPush
  cases hl : acc.getLast? with
  | none => exact flat_append_single acc t hacc ht (by intro l h; rw [hl] at h; cases h)
  | some last =>
    simp only
    split
    · -- the last (text) token gets a longer content: the types are as in `acc`
      have hne : acc ≠ [] := by intro e; rw [e] at hl; cases hl
      have hg : acc.getLast hne = last := Option.some.inj ((List.getLast?_eq_some_getLast hne).symm.trans hl)
      refine flat_types acc _ ?_ hacc
      conv => lhs; rw [← List.dropLast_concat_getLast hne, hg]
      simp only [List.map_append, List.map_cons, List.map_nil, Tok.setContent_type]
    · rename_i hm
      apply flat_append_single acc t hacc ht
      intro l h
      rw [hl] at h; simp only [Option.some.injEq] at h; subst h
      intro hb
      apply hm
      simp [hb.1, hb.2]

/-- **C02.joinToks_flat** — after `_join`, at this level: no `text_special`, no adjacent `text` -/
theorem joinToks_flat (acc cs : List Tok) (hacc : Flat acc) : Flat (joinToks acc cs) := by
  induction cs generalizing acc with
  | nil => simpa [joinToks] using hacc
  | cons t rest ih =>
    simp only [joinToks]
    exact ih _ (joinPush_flat acc (joinOne t) hacc (joinOne_type t))

theorem joinOpt_flat (c : Option (List Tok)) :
    match joinOpt c with
    | none => True
    | some cs => cs = [] ∨ Flat cs := by
  cases c with
  | none => simp [joinOpt]
  | some cs =>
    cases cs with
    | nil => simp [joinOpt]
    | cons x xs => simp only [joinOpt]; exact Or.inr (joinToks_flat [] _ trivial)

/-- the image description of a joined image token is itself a joined stream (`text_join` recurses into the children of `image` tokens), so flatness holds at every
    image depth -/
theorem joinOne_image_children (t : Tok) (h : t.type = "image") :
    (joinOne t).children = joinOpt t.children := by
  cases t with
  | mk ty tag n a m l c co mu i md b hh =>
    simp only [Tok.type] at h; subst h
    simp [joinOne, Tok.children]

theorem takeNested_balanced (ts : List Tok) (n : Int) (acc : List Tok) (hn : 1 ≤ n)
    (hb : balancedFrom n ts = true) :
    ∃ pre c rest, takeNested ts n acc = some (acc.reverse ++ pre ++ [c], rest) ∧ ts = pre ++ c :: rest
      ∧ balancedFrom (n - 1) pre = true ∧ balancedFrom 0 rest = true := by
  induction ts generalizing n acc with
  | nil => simp [balancedFrom] at hb; omega
  | cons t ts' ih =>
    simp only [balancedFrom, Bool.and_eq_true, decide_eq_true_eq] at hb
    obtain ⟨⟨hnest, hge⟩, hrest⟩ := hb
    simp only [Bool.or_eq_true, beq_iff_eq] at hnest
    simp only [takeNested]
    by_cases h0 : n + t.nesting = 0
    · refine ⟨[], t, ts', ?_, rfl, ?_, ?_⟩
      · simp [h0]
      · simp [balancedFrom]; omega
      · rw [h0] at hrest; exact hrest
    · have hn' : 1 ≤ n + t.nesting := by omega
      obtain ⟨pre, c, rest, h1, h2, h3, h4⟩ := ih (n + t.nesting) (t :: acc) hn' hrest
      refine ⟨t :: pre, c, rest, ?_, ?_, ?_, h4⟩
      · simp only [h0, if_false, h1]; simp
      · rw [h2]; rfl
      · simp only [balancedFrom, Bool.and_eq_true, decide_eq_true_eq]
        refine ⟨⟨by simpa [Bool.or_eq_true, beq_iff_eq] using hnest, by omega⟩, ?_⟩
        have : n - 1 + t.nesting = n + t.nesting - 1 := by omega
        rw [this]; exact h3

/-- **C02.tree_of_balanced** — if the nestings of a stream are balanced (each −1, 0 or 1; the
running depth never negative; zero at the end) then `SyntaxTreeNode(tokens)` builds without
raising.  (With `C15.tree_roundtrip` the tree flattens back to the stream.) -/
theorem tree_of_balanced (ts : List Tok) (hb : balancedFrom 0 ts = true) : ∃ f, buildTree ts = .ok f := by
  have key : ∀ k (ts : List Tok), ts.length ≤ k → balancedFrom 0 ts = true → ∃ f, buildTree ts = .ok f := by
    intro k
    induction k with
    | zero =>
      intro ts hl _
      have : ts = [] := by cases ts with | nil => rfl | cons _ _ => simp at hl
      subst this; exact ⟨[], by rw [buildTree]⟩
    | succ k ih =>
      intro ts hl hb
      cases ts with
      | nil => exact ⟨[], by rw [buildTree]⟩
      | cons t rest =>
        simp only [balancedFrom, Bool.and_eq_true, decide_eq_true_eq, Int.zero_add] at hb
        obtain ⟨⟨hnest, hge⟩, hrest⟩ := hb
        have hlr : rest.length ≤ k := by simp at hl; omega
        by_cases h0 : t.nesting = 0
        · rw [h0] at hrest
          obtain ⟨f, hf⟩ := ih rest hlr hrest
          exact ⟨.leaf t :: f, by rw [buildTree]; simp [h0, hf]⟩
        · have h1 : t.nesting = 1 := by
            simp only [Bool.or_eq_true, beq_iff_eq] at hnest
            omega
          rw [h1] at hrest
          obtain ⟨pre, c, rest', ht, hsplit, hpre, hrest'⟩ := takeNested_balanced rest 1 [] (by omega) hrest
          simp only [List.reverse_nil, List.nil_append, Int.sub_self] at ht hpre
          have hlen : pre.length ≤ k ∧ rest'.length ≤ k := by
            have := congrArg List.length hsplit
            simp at this; omega
          obtain ⟨kids, hk⟩ := ih pre hlen.1 hpre
          obtain ⟨r, hr⟩ := ih rest' hlen.2 hrest'
          refine ⟨.nest t c kids :: r, ?_⟩
          rw [buildTree]
          split
          · rename_i hh; exact absurd hh h0
          · split
            · rename_i hh; exact absurd h1 hh
            · split
              · rename_i heq; rw [ht] at heq; cases heq
              · rename_i innerC rest'' heq
                rw [ht] at heq
                simp only [Option.some.injEq, Prod.mk.injEq] at heq
                obtain ⟨rfl, rfl⟩ := heq
                simp [hk, hr]
  exact key ts.length ts (Nat.le_refl _) hb

/-! non-vacuity -/
example : balancedFrom 0 [mkInlineTok "em_open" "em" 1 0 "" "*" "", mkInlineTok "text" "" 0 1 "a" "" "",
    mkInlineTok "em_close" "em" (-1) 0 "" "*" ""] = true := by decide

end MdIt.C02
