import MdIt.Props.C05c
/-!
# C05 (continued) — every `href` **and every image `src`** the inline sub-parser stores is normalised and validated, at every depth

With the `image` rule in the chain the output is not a flat stream: an `image` token carries the tokens of its description as
`children`, produced by a nested run of the whole parser, and those may hold links and images again.  The token predicate is
therefore *deep*: `Deep N t` = `N t` and `N` of every descendant of `t`; the induction on the depth budget hands it from the nested
parses to the `image` tokens.  What the engine asks of `Deep N`, rule by rule (`LinkN`, `ImageN`, `LeafN`, `TokClosed`), follows once
from four facts about `N` itself (`ParseN`); `UTok` and the predicates of `C10g`, `C10l` are given by those.
-/
namespace MdIt.C05
open MdIt.C01 MdIt.C10

mutual
  /-- every token below `t` (children, their children, …) -/
  def descendants : Tok → List Tok
    | .mk _ _ _ _ _ _ children _ _ _ _ _ _ => descOpt children
  def descOpt : Option (List Tok) → List Tok
    | none => []
    | some cs => descList cs
  /-- the tokens of a stream with all their descendants -/
  def descList : List Tok → List Tok
    | [] => []
    | t :: ts => t :: (descendants t ++ descList ts)
end

theorem mem_descList (x : Tok) : ∀ ts : List Tok, x ∈ descList ts ↔ ∃ t ∈ ts, x = t ∨ x ∈ descendants t := by
  intro ts
  induction ts with
  | nil => simp [descList]
  | cons t ts ih =>
    simp only [descList, List.mem_cons, List.mem_append, ih]
    constructor
    · rintro (h | h | ⟨u, hu, h⟩)
      · exact ⟨t, .inl rfl, .inl h⟩
      · exact ⟨t, .inl rfl, .inr h⟩
      · exact ⟨u, .inr hu, h⟩
    · rintro ⟨u, hu | hu, h⟩
      · subst hu
        rcases h with h | h
        · exact .inl h
        · exact .inr (.inl h)
      · exact .inr (.inr ⟨u, hu, h⟩)

def Deep (N : Tok → Prop) (t : Tok) : Prop := N t ∧ ∀ c ∈ descendants t, N c

theorem deep_list {N : Tok → Prop} (ts : List Tok) (h : ∀ t ∈ ts, Deep N t) : ∀ x ∈ descList ts, N x := by
  intro x hx
  obtain ⟨t, ht, hxt⟩ := (mem_descList x ts).1 hx
  rcases hxt with rfl | hxt
  · exact (h _ ht).1
  · exact (h t ht).2 x hxt

theorem descendants_nochildren (ty tag : String) (n : Int) (a : List (String × AttrVal)) (m : Option (Nat × Nat)) (l : Int) (co mu i : String)
    (md : List (String × String)) (b h : Bool) : descendants (.mk ty tag n a m l none co mu i md b h) = [] := by
  simp [descendants, descOpt]

theorem descendants_setLevel (t : Tok) (l : Int) : descendants (t.setLevel l) = descendants t := by
  cases t; simp [Tok.setLevel, descendants]
theorem descendants_setContent (t : Tok) (c : String) : descendants (t.setContent c) = descendants t := by
  cases t; simp [Tok.setContent, descendants]
theorem descendants_setEmph (t : Tok) (ty tag : String) (n : Int) (mk : String) : descendants (t.setEmph ty tag n mk) = descendants t := by
  cases t; simp [Tok.setEmph, descendants]
theorem descendants_setAttrs (t : Tok) (a : List (String × AttrVal)) : descendants (t.setAttrs' a) = descendants t := by
  cases t; simp [Tok.setAttrs', descendants]

def UTok (ext : IExt) (lx : LExt) (t : Tok) : Prop :=
  LTok ext lx t ∧ (t.type = "image" → ∃ src, t.attrs.head? = some ("src", .s (String.ofList src)) ∧ LinkSrc ext lx src)

theorem utok_other (ext : IExt) (lx : LExt) (t : Tok) (h1 : t.type ≠ "link_open") (h2 : t.type ≠ "image") : UTok ext lx t :=
  ⟨ltok_other ext lx t h1, fun h => absurd h h2⟩

theorem deep_closed {N : Tok → Prop} {E : List String} (h : TokClosed N E) : TokClosed (Deep N) E := by
  refine ⟨fun lvl c => ⟨h.text lvl c, by simp [mkInlineTok, descendants, descOpt]⟩, ?_, ?_, ?_⟩
  · intro t l ht; exact ⟨h.setLevel t l ht.1, by rw [descendants_setLevel]; exact ht.2⟩
  · intro t c ht; exact ⟨h.setContent t c ht.1, by rw [descendants_setContent]; exact ht.2⟩
  · intro t ty tag n mk ht hty; exact ⟨h.setEmph t ty tag n mk ht.1 hty, by rw [descendants_setEmph]; exact ht.2⟩

theorem deep_of_children {N : Tok → Prop} {t : Tok} {cs : List Tok} (h : N t) (hch : t.children = none ∨ t.children = some cs)
    (hcs : ∀ c ∈ cs, Deep N c) : Deep N t := by
  refine ⟨h, fun c hc => ?_⟩
  have hd : descendants t = descOpt t.children := by cases t; rfl
  rw [hd] at hc
  rcases hch with hch | hch
  · rw [hch] at hc; cases hc
  · rw [hch] at hc; exact deep_list cs hcs c hc

theorem deep_flat {N : Tok → Prop} (t : Tok) (hc : t.children = none) (h : N t) : Deep N t :=
  deep_of_children (cs := []) h (.inl hc) nofun

theorem imageInline_src (ext : IExt) (lx : LExt) (s : IState) (labelEnd maximum pos : Nat) (h t : List Char)
    (hi : imageInline ext s labelEnd maximum = some (pos, h, t)) : LinkSrc ext lx h := by
  unfold imageInline at hi
  simp only at hi
  split at hi
  · cases hi
  · split at hi
    · cases hi
    · simp only [Option.some.injEq, Prod.mk.injEq] at hi
      obtain ⟨_, rfl, _⟩ := hi
      exact imageDestTitle_src ext lx s maximum _

/-- what the image rule needs of a (deep) token predicate; `cs` is the nested parse of the description (`children` is `none` if it is
    empty) -/
structure ImageN (ext : IExt) (lx : LExt) (D : Tok → Prop) : Prop where
  text : ∀ t, t.children = none → t.type = "text" → D t
  image : ∀ t src cs (label : List Char), t.type = "image" → t.attrs.head? = some ("src", .s (String.ofList src)) → LinkSrc ext lx src →
    t.metaD = (if !label.isEmpty && lx.storeLabels then [("label", String.ofList label)] else []) →
    (t.children = none ∨ t.children = some cs) → (∀ c ∈ cs, D c) → D t

theorem imageEmit_adds (ext : IExt) (lx : LExt) {D : Tok → Prop} (hI : ImageN ext lx D) (parse : List Char → Except PyErr (List Tok))
    (hparse : ∀ c ts, parse c = .ok ts → ∀ t ∈ ts, D t)
    (s : IState) (labelStart labelEnd : Nat) (href title label : List Char) (hsrc : LinkSrc ext lx href) (s3 : IState)
    (h : imageEmit lx parse s labelStart labelEnd href title label = .ok s3) :
    Adds D s.tokens s3.tokens := by
  unfold imageEmit at h
  simp only at h
  cases hp : parse ((s.src.take labelEnd).drop labelStart) with
  | error e => rw [hp] at h; cases h
  | ok ts =>
    rw [hp] at h
    simp only [Except.ok.injEq] at h
    subst h
    refine adds_flush (s := s) (fun _ _ => hI.text _ rfl rfl) (by rw [pushImage_eq])
      (hI.image _ href ts label rfl rfl hsrc rfl ?_ (hparse _ ts hp))
    show (if ts.isEmpty = true then none else some ts) = none ∨ _ = some ts
    split
    · exact .inl rfl
    · exact .inr rfl

theorem imageFind_src (ext : IExt) (lx : LExt) (mn : Int) (inner : List IRule) (s s2 : IState) (f : Found)
    (h : imageFind ext lx mn inner s = .ok (s2, some f)) : LinkSrc ext lx f.href := by
  revert h
  fun_cases imageFind ext lx mn inner s
  -- the one branch that finds something
  case case5 r s1 _ _ _ pos hrf title label hfound =>
    intro h; cases h
    unfold imageFound at hfound
    split at hfound
    · cases hi : imageInline ext s1 r.toNat s.posMax with
      | none => rw [hi] at hfound; cases hfound
      | some q => rw [hi] at hfound; cases hfound; exact imageInline_src ext lx _ _ _ _ _ _ hi
    · exact linkRef_src ext lx mn inner s1 _ _ _ _ s2 pos hrf title label hfound
  all_goals (intro h; cases h)

theorem adds2_image (ext : IExt) (lx : LExt) {D : Tok → Prop} (hI : ImageN ext lx D) (mn : Int) (inner : List IRule)
    (had : ∀ r ∈ inner, IAdds2 D r) (parse : List Char → Except PyErr (List Tok)) (hparse : ∀ c ts, parse c = .ok ts → ∀ t ∈ ts, D t) :
    IAdds2 D (ruleImage ext lx mn inner parse) := by
  rw [ruleImage_eq]
  intro s silent m s' h
  obtain ⟨hl, hs⟩ := bracket_keeps (Ps := fun x => x.tokens = s.tokens) (Pl := fun x => Adds D s.tokens x.tokens) h
    (fun x hx => hx ▸ .refl) rfl (imageFind_same (skipInv_tokens had mn _) ext lx s rfl).2 (fun _ _ _ h => h) (fun s2 f hf h2 s3 h3 =>
      h2 ▸ imageEmit_adds ext lx hI parse hparse s2 _ _ _ _ _ (imageFind_src ext lx mn inner s s2 f hf) s3 h3)
  cases silent with
  | true => exact .nil (hs rfl)
  | false => exact .loud rfl hl

/-- what the leaf rules of a configuration need of a token predicate: the tokens each *enabled* rule pushes satisfy it -/
structure LeafN (ext : IExt) (D : Tok → Prop) (newline escape backticks autolink htmlInline entity : Bool) : Prop where
  hardbreak : (newline || escape) = true → ∀ lvl, D (mkInlineTok "hardbreak" "br" 0 lvl "" "" "")
  softbreak : newline = true → ∀ lvl, D (mkInlineTok "softbreak" "br" 0 lvl "" "" "")
  escaped : escape = true → ∀ lvl c mk, D (mkInlineTok "text_special" "" 0 lvl c mk "escape")
  code : backticks = true → ∀ lvl c mk, D (mkInlineTok "code_inline" "code" 0 lvl c mk "")
  autoOpen : autolink = true → ∀ lvl u, validateLink (ext.normLink u) = true →
    D ((mkInlineTok "link_open" "a" 1 lvl "" "autolink" "auto").setAttrs' [("href", .s (String.ofList (ext.normLink u)))])
  autoClose : autolink = true → ∀ lvl, D (mkInlineTok "link_close" "a" (-1) lvl "" "autolink" "auto")
  html : htmlInline = true → ext.html = true → ∀ lvl c, D (mkInlineTok "html_inline" "" 0 lvl c "" "")
  entity : entity = true → ∀ lvl c mk, D (mkInlineTok "text_special" "" 0 lvl c mk "entity")

theorem imgChain_adds2 (cls : QCls) (ext : IExt) (lx : LExt) {D : Tok → Prop}
    (text newline escape backticks strike emphasis link image autolink htmlInline entity fragJoin : Bool) (mn : Int)
    (hT : ∀ lvl c, D (mkInlineTok "text" "" 0 lvl c "" "")) (hL : link = true → LinkN ext lx D) (hI : image = true → ImageN ext lx D)
    (hF : LeafN ext D newline escape backticks autolink htmlInline entity)
    (hC : TokClosed D (emphTypes strike emphasis)) :
    ∀ d : Nat, ∀ r ∈ imgChain cls ext lx text newline escape backticks strike emphasis link image autolink htmlInline entity fragJoin mn d,
      IAdds2 D r := by
  exact imgChain_forall (fun _ => adds_text hT) (fun hn => adds_newline hT (hF.hardbreak (by simp [hn])) (hF.softbreak hn))
    (fun he => adds_escape hT (hF.hardbreak (by simp [he])) (hF.escaped he))
    (fun hb => adds_backticks hT (hF.code hb)) (fun _ => adds_strike hT cls) (fun _ => adds_emphasis hT cls)
    (fun hlk d _ e ih => adds2_link ext lx (hL hlk) mn _ ih)
    (fun him d _ e ih => by
      subst e
      exact adds2_image ext lx (hI him) mn _ ih _
        (fun c ts hp => parse_toks2 strike emphasis hC _ ih fragJoin mn c ts hp))
    (fun ha => adds_autolink hT ext (hF.autoOpen ha) (hF.autoClose ha))
    (fun hh => adds_htmlInline hT ext (hF.html hh)) (fun hy => adds_entity hT ext (hF.entity hy))

theorem imgChain_addsD (cls : QCls) (ext : IExt) (lx : LExt) {D : Tok → Prop}
    (text newline escape backticks strike emphasis link image autolink htmlInline entity fragJoin : Bool) (mn : Int)
    (hT : ∀ lvl c, D (mkInlineTok "text" "" 0 lvl c "" "")) (hL : link = true → LinkN ext lx D) (hI : image = true → ImageN ext lx D)
    (hF : LeafN ext D newline escape backticks autolink htmlInline entity)
    (hC : TokClosed D (emphTypes strike emphasis)) :
    ∀ d : Nat, ∀ r ∈ imgChain cls ext lx text newline escape backticks strike emphasis link image autolink htmlInline entity fragJoin mn d,
      IAdds4 D r :=
  fun d r hr => iadds4_of
    (imgChain_adds2 cls ext lx text newline escape backticks strike emphasis link image autolink htmlInline entity fragJoin mn hT hL hI hF hC d r hr)

theorem imgParse_toksD (cls : QCls) (ext : IExt) (lx : LExt) {D : Tok → Prop}
    (text newline escape backticks strike emphasis link image autolink htmlInline entity fragJoin : Bool) (mn : Int)
    (hT : ∀ lvl c, D (mkInlineTok "text" "" 0 lvl c "" "")) (hL : link = true → LinkN ext lx D) (hI : image = true → ImageN ext lx D)
    (hF : LeafN ext D newline escape backticks autolink htmlInline entity)
    (hC : TokClosed D (emphTypes strike emphasis)) (d : Nat) (src : List Char) (ts : List Tok)
    (h : inlineParse (imgChain cls ext lx text newline escape backticks strike emphasis link image autolink htmlInline entity fragJoin mn d)
      (imgPost strike emphasis) fragJoin mn src = .ok ts) : ∀ t ∈ ts, D t :=
  parse_toks2 strike emphasis hC _
    (imgChain_adds2 cls ext lx text newline escape backticks strike emphasis link image autolink htmlInline entity fragJoin mn hT hL hI hF hC d)
    fragJoin mn src ts h

/-- what the whole inline parser of a configuration (nested runs, the second chain and `text_join` included) needs of a token
    predicate: `N` reads only `type`, `attrs` and `meta`; it holds of every token whose type an enabled rule can produce, `link_open` and
    `image` apart; and of these two, if a rule that makes them is on, when they start with a destination from one of the three sources
    and carry the label's metadata -/
structure ParseN (ext : IExt) (lx : LExt) (ic : ICfg) (N : Tok → Prop) : Prop where
  fields : ∀ t u : Tok, (t.type, t.attrs, t.metaD) = (u.type, u.attrs, u.metaD) → N t → N u
  plain : ∀ t, t.type ∈ inlineAllowed ext.html ic → t.type ≠ "link_open" → t.type ≠ "image" → N t
  linkOpen : (ic.link || ic.autolink) = true → ∀ t href label, t.type = "link_open" → t.attrs.head? = some ("href", .s (String.ofList href)) →
    t.metaD = labelMeta lx label → LinkSrc ext lx href → N t
  image : ic.image = true → ∀ t src label, t.type = "image" → t.attrs.head? = some ("src", .s (String.ofList src)) →
    t.metaD = labelMeta lx label → LinkSrc ext lx src → N t

section
variable {ext : IExt} {lx : LExt} {ic : ICfg} {N : Tok → Prop} (h : ParseN ext lx ic N)
include h

theorem ParseN.ofType (ty : String) {t : Tok} (e : t.type = ty) (hty : ty ∈ inlineAllowed ext.html ic) (h1 : ty ≠ "link_open") (h2 : ty ≠ "image") :
    N t :=
  h.plain t (e ▸ hty) (e ▸ h1) (e ▸ h2)

theorem ParseN.closed : TokClosed N (emphTypes ic.strike ic.emphasis) := by
  refine ⟨fun _ _ => h.ofType "text" rfl (by simp [inlineAllowed]) (by decide) (by decide), fun t _ => h.fields t _ (by cases t; rfl),
    fun t _ => h.fields t _ (by cases t; rfl), fun t ty tag n mk _ hty => ?_⟩
  refine h.ofType ty (Tok.setEmph_type t ty tag n mk) (by simp only [inlineAllowed, List.mem_append]; exact .inr hty) ?_ ?_
  all_goals (intro he; subst he; exact not_mem_emphTypes (by decide) hty)

theorem ParseN.linkN (hl : ic.link = true) : LinkN ext lx (Deep N) :=
  ⟨fun t hc hty => deep_flat t hc (hty.elim (fun e => h.ofType _ e (by simp [inlineAllowed]) (by decide) (by decide))
      fun e => h.ofType _ e (by simp [inlineAllowed, hl]) (by decide) (by decide)),
    fun t href label hc hty ha hmd hs => deep_flat t hc (h.linkOpen (by simp [hl]) t href label hty ha hmd hs)⟩

theorem ParseN.imageN (hi : ic.image = true) : ImageN ext lx (Deep N) :=
  ⟨fun t hc hty => deep_flat t hc (h.ofType _ hty (by simp [inlineAllowed]) (by decide) (by decide)),
    fun t src cs label hty ha hs hmd hch hcs => deep_of_children (h.image hi t src label hty ha hmd hs) hch hcs⟩

theorem ParseN.leafN : LeafN ext (Deep N) ic.newline ic.escape ic.backticks ic.autolink ic.htmlInline ic.entity := by
  have o : ∀ (ty tag : String) (n lvl : Int) (c m i : String), ty ∈ inlineAllowed ext.html ic → ty ≠ "link_open" → ty ≠ "image" →
      Deep N (mkInlineTok ty tag n lvl c m i) :=
    fun ty tag n lvl c m i hty h1 h2 => deep_flat _ rfl (h.ofType ty rfl hty h1 h2)
  exact ⟨fun hh _ => o _ _ _ _ _ _ _ (by simp [inlineAllowed, hh]) (by decide) (by decide),
    fun hh _ => o _ _ _ _ _ _ _ (by simp [inlineAllowed, hh]) (by decide) (by decide),
    fun hh _ _ _ => o _ _ _ _ _ _ _ (by simp [inlineAllowed, hh]) (by decide) (by decide),
    fun hh _ _ _ => o _ _ _ _ _ _ _ (by simp [inlineAllowed, hh]) (by decide) (by decide),
    fun hh _ u hv => deep_flat _ rfl (h.linkOpen (by simp [hh]) _ (ext.normLink u) [] rfl rfl rfl (.inr (.inl ⟨u, rfl, hv⟩))),
    fun hh _ => o _ _ _ _ _ _ _ (by simp [inlineAllowed, hh]) (by decide) (by decide),
    fun hh hx _ _ => o _ _ _ _ _ _ _ (by simp [inlineAllowed, hh, hx]) (by decide) (by decide),
    fun hh _ _ _ => o _ _ _ _ _ _ _ (by simp [inlineAllowed, hh]) (by decide) (by decide)⟩

/-- every token of a parse, at every depth, satisfies `N` -/
theorem ParseN.toks {cls : QCls} {mn : Int} {d : Nat} {src : List Char} {ts : List Tok} (hp : inlineOf cls ext lx ic mn d src = .ok ts) :
    ∀ x ∈ descList ts, N x :=
  have hD := deep_closed h.closed
  deep_list ts (imgParse_toksD cls ext lx ic.text ic.newline ic.escape ic.backticks ic.strike ic.emphasis ic.link ic.image ic.autolink
    ic.htmlInline ic.entity ic.fragJoin mn hD.text h.linkN h.imageN h.leafN hD d src ts hp)

end

theorem utok_parseN (ext : IExt) (lx : LExt) (ic : ICfg) : ParseN ext lx ic (UTok ext lx) where
  fields t u e h := by
    simp only [Prod.mk.injEq] at e
    unfold UTok LTok at *
    rw [← e.1, ← e.2.1]; exact h
  plain t _ := utok_other ext lx t
  linkOpen _ t href _ hty ha _ hs := ⟨fun _ => ⟨href, ha, hs⟩, fun e => absurd (hty ▸ e) (by decide)⟩
  image _ t src _ hty ha _ hs := ⟨ltok_other _ _ _ (by rw [hty]; decide), fun _ => ⟨src, ha, hs⟩⟩

theorem image_sources (cls : QCls) (ext : IExt) (lx : LExt)
    (text newline escape backticks strike emphasis link image autolink htmlInline entity fragJoin : Bool) (mn : Int) (d : Nat) (src : List Char)
    (ts : List Tok)
    (h : inlineParse (imgChain cls ext lx text newline escape backticks strike emphasis link image autolink htmlInline entity fragJoin mn d)
      (imgPost strike emphasis) fragJoin mn src = .ok ts) : ∀ t ∈ descList ts, UTok ext lx t :=
  (utok_parseN ext lx ⟨text, newline, escape, backticks, strike, emphasis, link, image, autolink, htmlInline, entity, fragJoin, true, true⟩).toks h

theorem utok_destOK {ext : IExt} {lx : LExt} (hrefs : RefsOK lx) {t : Tok} (h : UTok ext lx t) :
    (t.type = "link_open" → ∃ href : List Char, t.attrs.head? = some ("href", .s (String.ofList href)) ∧ DestOK href)
    ∧ (t.type = "image" → ∃ s : List Char, t.attrs.head? = some ("src", .s (String.ofList s)) ∧ DestOK s) := by
  constructor
  · intro hty
    obtain ⟨href, ha, hsrc⟩ := h.1 hty
    exact ⟨href, ha, destOK_of_src ext lx hrefs href hsrc⟩
  · intro hty
    obtain ⟨s, ha, hsrc⟩ := h.2 hty
    exact ⟨s, ha, destOK_of_src ext lx hrefs s hsrc⟩

/-- **C05.image_hrefs** — inline links, reference links, autolinks **and images** in the modelled inline sub-parser (eleven of the
twelve inline rules), for every reference table whose entries are acceptable (`RefsOK`): every `link_open` carries an `href`, every
`image` a `src` (the first attribute in both cases), that is empty or URL-safe ASCII with no dangerous scheme as a browser reads it
(unless a whitelisted `data:image/…;`) — for the tokens of the stream and of every image description nested in it, to any depth. -/
theorem image_hrefs (cls : QCls) (ext : IExt) (lx : LExt) (hrefs : RefsOK lx)
    (text newline escape backticks strike emphasis link image autolink htmlInline entity fragJoin : Bool) (mn : Int) (d : Nat) (src : List Char)
    (ts : List Tok)
    (h : inlineParse (imgChain cls ext lx text newline escape backticks strike emphasis link image autolink htmlInline entity fragJoin mn d)
      (imgPost strike emphasis) fragJoin mn src = .ok ts) (t : Tok) (ht : t ∈ descList ts) :
    (t.type = "link_open" → ∃ href : List Char, t.attrs.head? = some ("href", .s (String.ofList href)) ∧ DestOK href)
    ∧ (t.type = "image" → ∃ s : List Char, t.attrs.head? = some ("src", .s (String.ofList s)) ∧ DestOK s) :=
  utok_destOK hrefs
    (image_sources cls ext lx text newline escape backticks strike emphasis link image autolink htmlInline entity fragJoin mn d src ts h t ht)

/-- the `(type, first attribute)` pairs of a stream with its descendants -/
def destsOf (r : Except PyErr (List Tok)) : Option (List (String × Option (String × AttrVal))) :=
  match r with
  | .ok ts => some ((descList ts).filterMap (fun t => if t.type == "link_open" || t.type == "image" then some (t.type, t.attrs.head?) else none))
  | .error _ => none

/-! non-vacuity: an accepted image, a rejected one (stays text), a reference image, an image with a link and an image inside its
description -/
example : destsOf (inlineParse (imgChain C02f.asciiCls ext0 C01.lx0 true true true true false true true true false false false true 20 30) (imgPost false true) true 20
      "![a](http://x.y \"t\") ![b](javascript:z) ![c][r] ![d [e](/f) ![g](/h)](/i)".toList)
    = some [("image", some ("src", .s "http://x.y")), ("image", some ("src", .s "/ref")), ("image", some ("src", .s "/i")),
            ("link_open", some ("href", .s "/f")), ("image", some ("src", .s "/h"))] := by decide +kernel

end MdIt.C05
