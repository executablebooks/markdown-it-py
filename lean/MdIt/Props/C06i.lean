import MdIt.Props.C06h
import MdIt.Props.C10p
import MdIt.Props.C07c
/-!
# C06 (continued) — the block quote law for the full modelled sub-parser, and both laws as statements about the full model

`l_quote_law` is `C07.l_quote_law` (`Props/C07c.lean`: the list rule keeps the line-shift relation; take `n = 0`), stated in this
namespace so that the C06 check builds and audits it.  `C10.tParse_restricts` identifies the block parse of the model with all
eleven rules — `table`, `reference`, `html_block`, `lheading` switched off — with the sub-parser `lParse`, so the laws hold of
`tParse` (`t_quote_law`, `t_list_law`).  With those four rules on, the laws are decided by the oracle: a table or a definition inside
`D` is outside the simulation.
-/
namespace MdIt.C06

/-- **C06.l_quote_law** — for every document `D` given by its lines (no tab, CR, NUL, LF inside a line; at least one line), every
subset of `code`, `fence`, `hr`, `heading` and every `maxNesting ≥ 0`: prefixing every line of `D` with `"> "` (`">"` for an empty
line) parses — chains `code, fence, blockquote, hr, list, heading, paragraph`, one more level of nesting allowed — to exactly one
block quote spanning all lines whose content is the token stream of `D` one level deeper: everything the same (types, contents,
maps, markup, `hidden` flags) but `level`. -/
theorem l_quote_law (c : MiniCfg) (ws : List Nat) (mn : Int) (hmn : 0 ≤ mn) (ls : List (List Char)) (hne : ls ≠ [])
    (hcl : ∀ l ∈ ls, Clean l) (tsD : List Tok) (hD : lParse c ws mn (srcOf ls) = .ok tsD) :
    lParse c ws (mn + 1) (srcOf (ls.map quoteLine)) = .ok (quoteOpen ls.length :: tsD.map (Tok.shift 1) ++ [quoteClose]) :=
  C07.l_quote_law c ws mn hmn ls hne hcl tsD hD

theorem l_quote_law_total (c : MiniCfg) (ws : List Nat) (mn : Int) (hmn : 0 ≤ mn) (ls : List (List Char)) (hne : ls ≠ [])
    (hcl : ∀ l ∈ ls, Clean l) :
    ∃ tsD, lParse c ws mn (srcOf ls) = .ok tsD ∧
      lParse c ws (mn + 1) (srcOf (ls.map quoteLine)) = .ok (quoteOpen ls.length :: tsD.map (Tok.shift 1) ++ [quoteClose]) := by
  obtain ⟨tsD, h⟩ := C01.l_total c ws mn (srcOf ls)
  exact ⟨tsD, h, l_quote_law c ws mn hmn ls hne hcl tsD h⟩

open MdIt.C10 (tokensOf)
open MdIt.C01 MdIt.C02 MdIt.C07 MdIt.C06e

theorem t_quote_law (ext : IExt) (lx : LExt) (c : TCfg) (h0 : c.table = false) (h1 : c.reference = false) (h2 : c.htmlBlock = false)
    (h3 : c.lheading = false) (ws : List Nat) (mn : Int) (hmn : 0 ≤ mn) (ls : List (List Char)) (hne : ls ≠ [])
    (hcl : ∀ l ∈ ls, Clean l) :
    ∃ tsD, tokensOf (tParse ext lx c ws mn (srcOf ls)) = .ok tsD ∧
      tokensOf (tParse ext lx c ws (mn + 1) (srcOf (ls.map quoteLine))) = .ok (quoteOpen ls.length :: tsD.map (Tok.shift 1) ++ [quoteClose]) := by
  obtain ⟨tsD, hD, hQ⟩ := l_quote_law_total c.toMiniCfg ws mn hmn ls hne hcl
  refine ⟨tsD, ?_, ?_⟩
  · have := C10.tParse_restricts ext lx c h0 h1 h2 h3 ws mn (srcOf ls)
    rw [this]; exact hD
  · have := C10.tParse_restricts ext lx c h0 h1 h2 h3 ws (mn + 1) (srcOf (ls.map quoteLine))
    rw [this]; exact hQ

/-- **C06.t_list_law** — `list_law` for the full model `tParse`, with `table`, `reference`, `html_block`, `lheading` off -/
theorem t_list_law (ext : IExt) (lx : LExt) (c : TCfg) (h0 : c.table = false) (h1 : c.reference = false) (h2 : c.htmlBlock = false)
    (h3 : c.lheading = false) (ws : List Nat) (mn : Int) (hmn : 0 ≤ mn) (l0 : List Char) (rest : List (List Char))
    (hcl : ∀ l ∈ l0 :: rest, Clean l ∧ '>' ∉ l) (c0 : Char) (cs0 : List Char) (hl0 : l0 = c0 :: cs0) (hc0 : c0 ≠ ' ')
    (marker : List Char) (ordered : Bool) (mc : Char) (hmk : Marker marker ordered mc) (k : Nat) (hk1 : 1 ≤ k) (hk4 : k ≤ 4)
    (hhr : c.hr = true → hrMarkup (marker ++ List.replicate k ' ' ++ l0) = none)
    (tsD : List Tok) (hD : tokensOf (tParse ext lx c ws mn (srcOf (l0 :: rest))) = .ok tsD) :
    ∃ ts', tokensOf (tParse ext lx c ws (mn + 2) (srcOf (listify marker k l0 rest))) = .ok ts' ∧
      HidEq ts' (listOpenTok0 ordered mc (digitsVal (List.take (marker.length - 1) (marker ++ List.replicate k ' ' ++ l0))) (rest.length + 1)
        :: itemOpenTok mc (if ordered = true then String.ofList (List.take (marker.length - 1) (marker ++ List.replicate k ' ' ++ l0)) else "") (rest.length + 1)
        :: tsD.map (Tok.shift 2) ++ [itemCloseTok mc 2, listCloseTok ordered mc 1]) := by
  rw [C10.tParse_restricts ext lx c h0 h1 h2 h3] at hD
  obtain ⟨ts', h, hh⟩ := C06e.list_law c.toMiniCfg ws mn hmn l0 rest hcl c0 cs0 hl0 hc0 marker ordered mc hmk k hk1 hk4 hhr tsD hD
  exact ⟨ts', by rw [C10.tParse_restricts ext lx c h0 h1 h2 h3]; exact h, hh⟩

end MdIt.C06
