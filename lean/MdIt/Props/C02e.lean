import MdIt.Delims
/-!
# C02 (continued) — the delimiter pairs `processDelimiters` forms never cross

`processDelims` is the model of `rules_inline/balance_pairs.py: processDelimiters` (tied to the real function call by call).  The pairs
`(i, end[i])` it forms on an array whose `end` fields are unset never cross (`pairs_laminar`).

Two layers.  `Fam`: what is true of the pairs, kept by *any* loop that at closer `c` does nothing or pairs `c` with an unmatched opener
below it that is not strictly inside a pair (`Fam.matched`); nothing about how the opener is found.  `SearchOK`: the meaning of the
function's bookkeeping — a jump taken from an index that is not strictly inside a pair never lands strictly inside one — from which
the opener search returns such an opener (`find_spec`, `pdStep_inv`).
-/
namespace MdIt.C02e
open MdIt

/-- `t` is not strictly inside a formed pair -/
def NotInside (ds : List Delim) (t : Int) : Prop :=
  ∀ (o : Nat) (d : Delim), ds[o]? = some d → 0 ≤ d.end_ → ¬ ((o : Int) < t ∧ t < d.end_)

/-- no two formed pairs cross -/
def Laminar (ds : List Delim) : Prop :=
  ∀ (o1 o2 : Nat) (d1 d2 : Delim), ds[o1]? = some d1 → ds[o2]? = some d2 → 0 ≤ d1.end_ → 0 ≤ d2.end_ →
    ¬ (o1 < o2 ∧ (o2 : Int) < d1.end_ ∧ d1.end_ < d2.end_)

/-- the delimiter array after the match `(v, c)` -/
def matched (ds : List Delim) (c v : Nat) : List Delim :=
  (ds.modify c (fun d => { d with open_ := false })).modify v (fun d => { d with end_ := (c : Int), close := false })

/-- what the match `(v, c)` does to the record at `i` -/
def upd (c v i : Nat) (d : Delim) : Delim :=
  { d with open_ := if i = c then false else d.open_, end_ := if i = v then (c : Int) else d.end_, close := if i = v then false else d.close }

theorem upd_end (c v i : Nat) (d : Delim) : (upd c v i d).end_ = if i = v then (c : Int) else d.end_ := rfl

theorem upd_open (c v i : Nat) (d : Delim) : (upd c v i d).open_ = if i = c then false else d.open_ := rfl

theorem matched_get (ds : List Delim) (c v i : Nat) : (matched ds c v)[i]? = ds[i]?.map (upd c v i) := by
  unfold matched
  by_cases hv : i = v
  · subst hv
    rw [List.getElem?_modify_eq]
    by_cases hc : i = c
    · subst hc; rw [List.getElem?_modify_eq]; cases ds[i]? <;> simp [upd]
    · rw [List.getElem?_modify_ne _ _ (Ne.symm hc)]; cases ds[i]? <;> simp [upd, hc]
  · rw [List.getElem?_modify_ne _ _ (Ne.symm hv)]
    by_cases hc : i = c
    · subst hc; rw [List.getElem?_modify_eq]; cases ds[i]? <;> simp [upd, hv]
    · rw [List.getElem?_modify_ne _ _ (Ne.symm hc)]; cases ds[i]? <;> simp [upd, hv, hc]

theorem matched_length (ds : List Delim) (c v : Nat) : (matched ds c v).length = ds.length := by
  unfold matched; simp

theorem matched_at {ds : List Delim} {c v o : Nat} {d : Delim} (h : (matched ds c v)[o]? = some d) : ∃ d0, ds[o]? = some d0 ∧ d = upd c v o d0 := by
  rw [matched_get] at h
  cases hq : ds[o]? with
  | none => rw [hq] at h; cases h
  | some d0 => rw [hq] at h; exact ⟨d0, rfl, (Option.some.inj h).symm⟩

theorem matched_end {ds : List Delim} {c v o : Nat} {d : Delim} (h : (matched ds c v)[o]? = some d) :
    (o = v ∧ d.end_ = (c : Int)) ∨ (o ≠ v ∧ ∃ d0, ds[o]? = some d0 ∧ d0.end_ = d.end_) := by
  obtain ⟨d0, h0, rfl⟩ := matched_at h
  by_cases hov : o = v
  · exact .inl ⟨hov, if_pos hov⟩
  · exact .inr ⟨hov, d0, h0, (if_neg hov).symm⟩

theorem notInside_matched {ds : List Delim} {c v : Nat} {dv : Delim} (hv : ds[v]? = some dv) (hve : dv.end_ < 0) (t : Int) :
    NotInside (matched ds c v) t ↔ NotInside ds t ∧ ¬ ((v : Int) < t ∧ t < (c : Int)) := by
  constructor
  · intro h
    have at_ : ∀ o d, ds[o]? = some d → (matched ds c v)[o]? = some (upd c v o d) := fun o d ho => by rw [matched_get, ho]; rfl
    refine ⟨fun o d ho he => ?_, ?_⟩
    · have hov : o ≠ v := by rintro rfl; rw [hv] at ho; cases ho; omega
      have e : (upd c v o d).end_ = d.end_ := if_neg hov
      exact e ▸ h o _ (at_ o d ho) (e ▸ he)
    · have e : (upd c v v dv).end_ = (c : Int) := if_pos rfl
      exact e ▸ h v _ (at_ v dv hv) (e ▸ Int.natCast_nonneg c)
  · rintro ⟨h1, h2⟩ o d ho he hin
    rcases matched_end ho with ⟨rfl, e⟩ | ⟨_, d0, h0, e⟩
    · exact h2 ⟨hin.1, by omega⟩
    · exact h1 o d0 h0 (by omega) ⟨hin.1, by omega⟩

/-- what `processDelims` keeps of the array: `b` has the records of `a` with their markers, token positions and run lengths; an `end_`
stays or becomes an index (`open_` / `close`, which a match clears, are not spoken of) -/
def SameShape (a b : List Delim) : Prop :=
  b.length = a.length ∧ ∀ (i : Nat) (d : Delim), b[i]? = some d →
    ∃ d0, a[i]? = some d0 ∧ d.marker = d0.marker ∧ d.token = d0.token ∧ d.length = d0.length ∧ (d.end_ = d0.end_ ∨ 0 ≤ d.end_)

theorem SameShape.refl (a : List Delim) : SameShape a a := ⟨rfl, fun _ d h => ⟨d, h, rfl, rfl, rfl, .inl rfl⟩⟩

theorem SameShape.trans {a b c : List Delim} (h1 : SameShape a b) (h2 : SameShape b c) : SameShape a c := by
  refine ⟨by rw [h2.1, h1.1], ?_⟩
  intro i d hd
  obtain ⟨d1, a1, a2, a3, a4, a5⟩ := h2.2 i d hd
  obtain ⟨d0, b1, b2, b3, b4, b5⟩ := h1.2 i d1 a1
  refine ⟨d0, b1, a2.trans b2, a3.trans b3, a4.trans b4, ?_⟩
  rcases a5 with h | h
  · rcases b5 with g | g
    · exact .inl (h.trans g)
    · exact .inr (by omega)
  · exact .inr h

theorem SameShape.mem {a b : List Delim} (h : SameShape a b) {d : Delim} (hd : d ∈ b) :
    ∃ d0 ∈ a, d.marker = d0.marker ∧ d.token = d0.token ∧ d.length = d0.length := by
  obtain ⟨i, hi⟩ := List.getElem?_of_mem hd
  obtain ⟨d0, a1, a2, a3, a4, _⟩ := h.2 i d hi
  exact ⟨d0, List.mem_of_getElem? a1, a2, a3, a4⟩

theorem matched_shape (ds : List Delim) (c v : Nat) : SameShape ds (matched ds c v) := by
  refine ⟨matched_length ds c v, fun i d hd => ?_⟩
  obtain ⟨d0, h0, rfl⟩ := matched_at hd
  refine ⟨d0, h0, rfl, rfl, rfl, ?_⟩
  by_cases hv : i = v
  · exact .inr (by rw [upd_end, if_pos hv]; exact Int.natCast_nonneg c)
  · exact .inl (if_neg hv)

theorem pdStep_shape (st : PDState) (c : Nat) : SameShape st.ds (pdStep st c).ds := by
  fun_cases pdStep st c
  case case3 => exact matched_shape _ _ _
  all_goals exact SameShape.refl _

theorem foldl_shape : ∀ (l : List Nat) (st : PDState), SameShape st.ds (l.foldl pdStep st).ds := by
  intro l
  induction l with
  | nil => intro st; exact SameShape.refl _
  | cons c rest ih => intro st; simp only [List.foldl_cons]; exact (pdStep_shape st c).trans (ih _)

theorem processDelims_shape (ds : List Delim) : SameShape ds (processDelims ds) := foldl_shape _ _

/-- the pairs formed when the closers below `c` have been processed -/
structure Fam (ds : List Delim) (c : Nat) : Prop where
  pairs : ∀ (o : Nat) (d : Delim), ds[o]? = some d → 0 ≤ d.end_ → (o : Int) < d.end_ ∧ d.end_ < (c : Int)
  lam : Laminar ds
  /-- a matched closer cannot open again, a matched opener could; a closer closes one opener -/
  clo : ∀ (o : Nat) (d de : Delim), ds[o]? = some d → 0 ≤ d.end_ → ds[d.end_.toNat]? = some de → de.open_ = false
  opn : ∀ (o : Nat) (d : Delim), ds[o]? = some d → 0 ≤ d.end_ → d.open_ = true
  inj : ∀ (o1 o2 : Nat) (d1 d2 : Delim), ds[o1]? = some d1 → ds[o2]? = some d2 → 0 ≤ d1.end_ → d1.end_ = d2.end_ → o1 = o2

theorem Fam.init {ds : List Delim} (hend : ∀ d ∈ ds, d.end_ < 0) : Fam ds 0 := by
  have no : ∀ {o : Nat} {d : Delim}, ds[o]? = some d → ¬ 0 ≤ d.end_ := fun ho he => by have := hend _ (List.mem_of_getElem? ho); omega
  exact ⟨fun _ _ ho he => (no ho he).elim, fun _ _ _ _ h1 _ e1 => (no h1 e1).elim, fun _ _ _ ho he => (no ho he).elim,
    fun _ _ ho he => (no ho he).elim, fun _ _ _ _ h1 _ e1 => (no h1 e1).elim⟩

theorem Fam.succ {ds : List Delim} {c : Nat} (h : Fam ds c) : Fam ds (c + 1) :=
  { h with pairs := fun o d ho he => by have := h.pairs o d ho he; omega }

/-- closer `c` may take any unmatched opener below it that is not strictly inside a pair: an earlier pair that starts between the two also
    ends there (its closer is below `c`), and none starts before the opener and ends between them -/
theorem Fam.matched {ds : List Delim} {c v : Nat} {dv : Delim} (h : Fam ds c) (hvc : v < c) (hni : NotInside ds (v : Int))
    (hdv : ds[v]? = some dv) (hvo : dv.open_ = true) : Fam (matched ds c v) (c + 1) := by
  refine ⟨?_, ?_, ?_, ?_, ?_⟩
  · intro o d ho he
    rcases matched_end ho with ⟨rfl, h2⟩ | ⟨_, d0, h0, h1⟩
    · omega
    · have := h.pairs o d0 h0 (by omega); omega
  · intro o1 o2 d1 d2 h1 h2 e1 e2 hx
    rcases matched_end h1 with ⟨rfl, a2⟩ | ⟨_, p1, a1, a2⟩
    · rcases matched_end h2 with ⟨rfl, b2⟩ | ⟨_, p2, b1, b2⟩
      · omega
      · have := h.pairs o2 p2 b1 (by omega); omega
    · rcases matched_end h2 with ⟨rfl, b2⟩ | ⟨_, p2, b1, b2⟩
      · exact hni o1 p1 a1 (by omega) ⟨by omega, by omega⟩
      · exact h.lam o1 o2 p1 p2 a1 b1 (by omega) (by omega) ⟨hx.1, by omega, by omega⟩
  · intro o d de ho he hde
    obtain ⟨de0, g0, rfl⟩ := matched_at hde
    rw [upd_open]
    rcases matched_end ho with ⟨rfl, h2⟩ | ⟨_, d0, h0, h1⟩
    · exact if_pos (by omega)
    · split
      · rfl
      · exact h.clo o d0 de0 h0 (by omega) (h1 ▸ g0)
  · intro o d ho he
    obtain ⟨d0, g0, rfl⟩ := matched_at ho
    rw [upd_open]
    by_cases hov : o = v
    · subst hov; rw [hdv] at g0; cases g0; rw [if_neg (by omega)]; exact hvo
    · have he' : 0 ≤ d0.end_ := by rwa [upd_end, if_neg hov] at he
      have := h.pairs o d0 g0 he'
      rw [if_neg (by omega)]; exact h.opn o d0 g0 he'
  · intro o1 o2 d1 d2 h1 h2 e1 e12
    rcases matched_end h1 with ⟨rfl, a2⟩ | ⟨_, p1, a1, a2⟩
    · rcases matched_end h2 with ⟨rfl, _⟩ | ⟨_, p2, b1, b2⟩
      · rfl
      · have := h.pairs o2 p2 b1 (by omega); omega
    · rcases matched_end h2 with ⟨rfl, b2⟩ | ⟨_, p2, b1, b2⟩
      · have := h.pairs o1 p1 a1 (by omega); omega
      · exact h.inj o1 o2 p1 p2 a1 b1 (by omega) (by omega)

theorem bottomGet_ge_of (b : Bottoms) (h : ∀ p ∈ b, ∀ x ∈ p.2, (-1 : Int) ≤ x) (m k : Nat) : -1 ≤ bottomGet b m k := by
  unfold bottomGet
  cases hf : b.find? (·.1 == m) with
  | none => simp
  | some p =>
    simp only
    have hp := List.mem_of_find?_eq_some hf
    cases hk : p.2[k]? with
    | none => simp [List.getD, hk]
    | some x =>
      have : p.2.getD k (-1) = x := by simp [List.getD, hk]
      rw [this]
      exact h p hp x (List.mem_of_getElem? hk)

theorem bottomSet_ge (b : Bottoms) (h : ∀ p ∈ b, ∀ x ∈ p.2, (-1 : Int) ≤ x) (m k : Nat) (v : Int) (hv : -1 ≤ v) :
    ∀ p ∈ bottomSet b m k v, ∀ x ∈ p.2, (-1 : Int) ≤ x := by
  unfold bottomSet
  cases hf : b.find? (·.1 == m) with
  | none =>
    intro p hp x hx
    simp only [List.mem_cons] at hp
    rcases hp with rfl | hp
    · rcases List.mem_or_eq_of_mem_set hx with h1 | h1
      · simp only [List.mem_cons, List.not_mem_nil, or_false] at h1
        rcases h1 with h1 | h1 | h1 | h1 | h1 | h1 <;> (rw [h1]; decide)
      · subst h1; exact hv
    · exact h p hp x hx
  | some q =>
    intro p hp x hx
    simp only [List.mem_cons] at hp
    rcases hp with rfl | hp
    · rcases List.mem_or_eq_of_mem_set hx with h1 | h1
      · exact h q (List.mem_of_find?_eq_some hf) x h1
      · subst h1; exact hv
    · exact h p (List.mem_filter.1 hp).1 x hx

theorem bottoms_register (b : Bottoms) (h : ∀ p ∈ b, ∀ x ∈ p.2, (-1 : Int) ≤ x) (m : Nat) :
    ∀ p ∈ (if (b.find? (·.1 == m)).isSome then b else (m, [-1, -1, -1, -1, -1, -1]) :: b), ∀ x ∈ p.2, (-1 : Int) ≤ x := by
  split
  · exact h
  · intro p hp x hx
    rcases List.mem_cons.1 hp with rfl | hp
    · simp only [List.mem_cons, List.not_mem_nil, or_false] at hx
      rcases hx with h | h | h | h | h | h <;> (rw [h]; decide)
    · exact h p hp x hx

theorem find_spec (ds : List Delim) (jumps : List Nat) (closer : Delim) (min : Int) (hmin : -1 ≤ min)
    (hJ : ∀ k : Nat, NotInside ds (k : Int) → NotInside ds ((k : Int) - ((jumps.getD k 0 : Nat) : Int) - 1)) :
    ∀ (fuel : Nat) (k : Int) (v : Nat), NotInside ds k → findDelimOpener ds jumps closer min fuel k = some v →
      (v : Int) ≤ k ∧ NotInside ds (v : Int) ∧ ∃ dv, ds[v]? = some dv ∧ dv.end_ < 0 ∧ dv.open_ = true := by
  intro fuel k v hni h
  have next : ∀ k : Int, 0 ≤ k → NotInside ds k → NotInside ds (k - ((jumps.getD k.toNat 0 : Nat) : Int) - 1) := fun k hk0 hni => by
    have := hJ k.toNat
    rw [Int.toNat_of_nonneg hk0] at this
    exact this hni
  fun_induction findDelimOpener ds jumps closer min fuel k with
  | case1 | case2 | case6 => cases h
  | case3 fuel k hgt opener hq nx _ ih | case5 fuel k hgt opener hq nx _ _ ih =>
    obtain ⟨a1, a2⟩ := ih (next k (by omega) hni) h
    exact ⟨by omega, a2⟩
  | case4 fuel k hgt opener hq _ hcond =>
    cases h
    simp only [Bool.and_eq_true, decide_eq_true_eq, Bool.not_eq_true'] at hcond
    have hkc : ((k.toNat : Nat) : Int) = k := by omega
    exact ⟨by omega, hkc ▸ hni, opener, hq, hcond.1.2, hcond.1.1⟩

theorem getD_append_zero (l : List Nat) (k : Nat) : (l ++ [0]).getD k 0 = l.getD k 0 := by
  by_cases h : k < l.length
  · simp [List.getD, List.getElem?_append_left h]
  · have h1 : l[k]? = none := List.getElem?_eq_none_iff.mpr (by omega)
    by_cases h2 : k = l.length
    · subst h2; simp [List.getD]
    · have : (l ++ [0])[k]? = none := List.getElem?_eq_none_iff.mpr (by simp; omega)
      simp [List.getD, h1, this]

theorem getD_set (l : List Nat) (i k v : Nat) (hi : i < l.length) : (l.set i v).getD k 0 = if i = k then v else l.getD k 0 := by
  unfold List.getD
  by_cases h : i = k
  · subst h; simp [List.getElem?_set_self hi]
  · simp [List.getElem?_set_ne h, h]

/-- the bookkeeping after the closers below `c` have been processed -/
structure SearchOK (st : PDState) (c : Nat) : Prop where
  len : st.jumps.length = c
  /-- the meaning of `jumps`: a jump does not pass index −1 (so the search starts at `≥ -1`; with `bot` — the stored bottoms are `≥ -1` — it
      inspects indices `≥ 0` only), and from outside every pair it leads outside every pair -/
  jump : ∀ k, k < c → st.jumps.getD k 0 ≤ k ∧
    (NotInside st.ds (k : Int) → NotInside st.ds ((k : Int) - ((st.jumps.getD k 0 : Nat) : Int) - 1))
  /-- unless the run has just been reset, every pair ends before the header of the current run of delimiters -/
  hdr : st.lastTokenIdx = -2 ∨ ∀ (o : Nat) (d : Delim), st.ds[o]? = some d → 0 ≤ d.end_ → d.end_ < (st.headerIdx : Int)
  hle : st.headerIdx ≤ c
  bot : ∀ p ∈ st.bottoms, ∀ x ∈ p.2, (-1 : Int) ≤ x

theorem SearchOK.init (ds : List Delim) : SearchOK { ds := ds, bottoms := [], headerIdx := 0, lastTokenIdx := -2, jumps := [] } 0 :=
  ⟨rfl, fun _ hk => absurd hk (Nat.not_lt_zero _), .inl rfl, Nat.le_refl _, fun _ hp => nomatch hp⟩

/-- with the jump 0 appended for the closer under inspection, which lands on the index before it (no earlier pair contains it) -/
theorem SearchOK.jump_append {st : PDState} {c : Nat} (hS : SearchOK st c) (hF : Fam st.ds c) (k : Nat) :
    (st.jumps ++ [0]).getD k 0 ≤ k ∧
      (NotInside st.ds (k : Int) → NotInside st.ds ((k : Int) - (((st.jumps ++ [0]).getD k 0 : Nat) : Int) - 1)) := by
  rw [getD_append_zero]
  by_cases hkc : k < c
  · exact hS.jump k hkc
  · have : st.jumps.getD k 0 = 0 := by
      unfold List.getD; rw [List.getElem?_eq_none_iff.mpr (by rw [hS.len]; omega)]; rfl
    rw [this]
    exact ⟨Nat.zero_le _, fun _ o d ho he hin => by have := hF.pairs o d ho he; omega⟩

/-- the header of the closer's run, as the loop computes it -/
def header' (st : PDState) (c : Nat) (closer : Delim) : Nat :=
  if (st.ds.getD st.headerIdx closer).marker != closer.marker || st.lastTokenIdx != closer.token - 1 then c else st.headerIdx

theorem SearchOK.header_le {st : PDState} {c : Nat} (hS : SearchOK st c) (closer : Delim) : header' st c closer ≤ c := by
  unfold header'; split
  · exact Nat.le_refl _
  · exact hS.hle

/-- `lastTokenIdx = -2` after a match cannot be `closer.token - 1`: token positions are `≥ 0` -/
theorem SearchOK.header_past {st : PDState} {c : Nat} (hS : SearchOK st c) (hF : Fam st.ds c) {closer : Delim} (htok : 0 ≤ closer.token) :
    ∀ (o : Nat) (d : Delim), st.ds[o]? = some d → 0 ≤ d.end_ → d.end_ < (header' st c closer : Int) := by
  intro o d ho he
  unfold header'
  split
  · exact (hF.pairs o d ho he).2
  · rename_i hcond
    simp only [Bool.or_eq_true, bne_iff_ne, ne_eq, not_or, Decidable.not_not] at hcond
    rcases hS.hdr with h2 | h2
    · omega
    · exact h2 o d ho he

/-- an iteration that forms no pair -/
theorem SearchOK.keep {st : PDState} {c : Nat} (hS : SearchOK st c) (hF : Fam st.ds c) {closer : Delim} (htok : 0 ≤ closer.token) (b' : Bottoms)
    (hb : ∀ p ∈ b', ∀ x ∈ p.2, (-1 : Int) ≤ x) :
    SearchOK { st with jumps := st.jumps ++ [0], headerIdx := header' st c closer, lastTokenIdx := closer.token, bottoms := b' } (c + 1) :=
  ⟨by simp [hS.len], fun k _ => hS.jump_append hF k, .inr (hS.header_past hF htok), Nat.le_succ_of_le (hS.header_le closer), hb⟩

/-- an iteration that forms the pair `(v, c)`: the jumps rewritten at `v` and at `c` both land where the jump from `v - 1` landed, or
    on `v - 1`, which is outside every earlier pair because `v` is and no pair ends at `v` (a closer cannot open); every other index outside
    the pair `(v, c)` lies below `v`, and so does where its jump lands -/
theorem SearchOK.matched {st : PDState} {c : Nat} (hS : SearchOK st c) (hF : Fam st.ds c) (closer : Delim) (b' : Bottoms)
    (hb : ∀ p ∈ b', ∀ x ∈ p.2, (-1 : Int) ≤ x) {v : Nat} {dv : Delim} (hvc : v < c) (hni : NotInside st.ds (v : Int))
    (hdv : st.ds[v]? = some dv) (hve : dv.end_ < 0) (hvo : dv.open_ = true) (lastJump : Nat)
    (hlj : lastJump = 0 ∨ (0 < v ∧ lastJump = (st.jumps ++ [0]).getD (v - 1) 0 + 1)) :
    SearchOK { st with ds := matched st.ds c v, bottoms := b', jumps := ((st.jumps ++ [0]).set c (c - v + lastJump)).set v lastJump,
                       headerIdx := header' st c closer, lastTokenIdx := -2 } (c + 1) := by
  have hvm1 : NotInside st.ds ((v : Int) - 1) := by
    intro o d ho he hin
    have hp := hF.pairs o d ho he
    have hev : d.end_.toNat ≠ v := fun e => by have := hF.clo o d dv ho he (e ▸ hdv); rw [hvo] at this; cases this
    exact hni o d ho he ⟨by omega, by omega⟩
  have hland : lastJump ≤ v ∧ NotInside st.ds ((v : Int) - (lastJump : Int) - 1) := by
    rcases hlj with rfl | ⟨h0, rfl⟩
    · exact ⟨Nat.zero_le _, by simpa using hvm1⟩
    · obtain ⟨a, b⟩ := hS.jump_append hF (v - 1)
      have e : ((v - 1 : Nat) : Int) = (v : Int) - 1 := by omega
      rw [e] at b
      refine ⟨by omega, ?_⟩
      have e' : (v : Int) - (((st.jumps ++ [0]).getD (v - 1) 0 + 1 : Nat) : Int) - 1
          = (v : Int) - 1 - (((st.jumps ++ [0]).getD (v - 1) 0 : Nat) : Int) - 1 := by omega
      rw [e']; exact b hvm1
  refine ⟨by simp [hS.len], fun k hk => ?_, .inl rfl, Nat.le_succ_of_le (hS.header_le closer), hb⟩
  dsimp only
  rw [getD_set _ _ _ _ (by simp [hS.len]; omega), getD_set _ _ _ _ (by simp [hS.len])]
  simp only [notInside_matched hdv hve]
  by_cases hkv : v = k
  · subst hkv; rw [if_pos rfl]; exact ⟨hland.1, fun _ => ⟨hland.2, by omega⟩⟩
  · rw [if_neg hkv]
    by_cases hkc : c = k
    · subst hkc
      rw [if_pos rfl]
      have e : (c : Int) - ((c - v + lastJump : Nat) : Int) - 1 = (v : Int) - (lastJump : Int) - 1 := by omega
      rw [e]; exact ⟨by omega, fun _ => ⟨hland.2, by omega⟩⟩
    · rw [if_neg hkc]
      obtain ⟨a, b⟩ := hS.jump_append hF k
      exact ⟨a, fun h => ⟨b h.1, by omega⟩⟩

theorem pdStep_inv (st : PDState) (c : Nat) (hF : Fam st.ds c) (hS : SearchOK st c) (htok : ∀ d ∈ st.ds, 0 ≤ d.token) (hc : c < st.ds.length) :
    Fam (pdStep st c).ds (c + 1) ∧ SearchOK (pdStep st c) (c + 1) := by
  have hJ := hS.jump_append hF
  fun_cases pdStep st c
  case case1 h => rw [List.getElem?_eq_getElem hc] at h; cases h
  case case2 closer hcl _ _ _ _ _ =>
    exact ⟨hF.succ, hS.keep hF (htok closer (List.mem_of_getElem? hcl)) st.bottoms hS.bot⟩
  case case3 closer hcl jumps _ headerIdx _ _ k minOpenerIdx bottoms1 start v hf lastJump _ _ =>
    have hct := htok closer (List.mem_of_getElem? hcl)
    -- the search starts one jump below the header, which lies past every pair
    have hhni : NotInside st.ds ((header' st c closer : Nat) : Int) := fun o d ho he hin => by
      have := hS.header_past hF hct o d ho he; omega
    have := hS.header_le closer
    obtain ⟨a1, a2, dv, a3, a4, a5⟩ := find_spec st.ds jumps closer _ (bottomGet_ge_of st.bottoms hS.bot _ _)
      (fun k => (hJ k).2) (c + 1) _ v ((hJ _).2 hhni) hf
    have hvc : v < c := by
      have : (v : Int) ≤ ((header' st c closer : Nat) : Int) - _ - 1 := a1
      omega
    refine ⟨hF.matched hvc a2 a3 a5, hS.matched hF closer bottoms1 (bottoms_register _ hS.bot _) hvc a2 a3 a4 a5 lastJump ?_⟩
    by_cases hcond : (decide (v > 0) && !(st.ds.getD (v - 1) closer).open_) = true
    · exact .inr ⟨of_decide_eq_true (Bool.and_eq_true _ _ ▸ hcond).1, if_pos hcond⟩
    · exact .inl (if_neg hcond)
  case case4 closer hcl jumps _ headerIdx _ _ k minOpenerIdx bottoms1 start hf =>
    have := (hJ (header' st c closer)).1
    exact ⟨hF.succ, hS.keep hF (htok closer (List.mem_of_getElem? hcl)) _
      (bottomSet_ge _ (bottoms_register _ hS.bot _) _ _ _ (by show -1 ≤ ((header' st c closer : Nat) : Int) - (((st.jumps ++ [0]).getD (header' st c closer) 0 : Nat) : Int) - 1; omega))⟩

theorem foldl_inv (ds0 : List Delim) (htok : ∀ d ∈ ds0, 0 ≤ d.token) : ∀ (n : Nat) (st : PDState) (c : Nat), Fam st.ds c → SearchOK st c →
    SameShape ds0 st.ds → c + n ≤ ds0.length → Fam ((List.range' c n).foldl pdStep st).ds (c + n) := by
  intro n
  induction n with
  | zero => intro st c hF _ _ _; exact hF
  | succ m ih =>
    intro st c hF hS hs hle
    simp only [List.range'_succ, List.foldl_cons]
    obtain ⟨h1, h2⟩ := pdStep_inv st c hF hS
      (fun d hd => by obtain ⟨d0, m0, _, e, _⟩ := hs.mem hd; rw [e]; exact htok d0 m0) (by rw [hs.1]; omega)
    have := ih (pdStep st c) (c + 1) h1 h2 (hs.trans (pdStep_shape st c)) (by omega)
    rwa [show c + 1 + m = c + (m + 1) by omega] at this

theorem processDelims_fam (ds : List Delim) (hend : ∀ d ∈ ds, d.end_ < 0) (htok : ∀ d ∈ ds, 0 ≤ d.token) :
    Fam (processDelims ds) ds.length := by
  have := foldl_inv ds htok ds.length _ 0 (Fam.init hend) (SearchOK.init ds) (SameShape.refl ds) (by omega)
  rwa [← List.range_eq_range', Nat.zero_add] at this

/-- **C02e.pairs_laminar** — for every delimiter array with unset `end` fields and non-negative token positions, whatever the
markers, run lengths and open/close flags: every pair `(i, end[i])` that `processDelimiters` forms has `i < end[i] < len`, and no two
pairs cross — the spans of emphasis, strong emphasis and strikethrough are nested or disjoint -/
theorem pairs_laminar (ds : List Delim) (hend : ∀ d ∈ ds, d.end_ < 0) (htok : ∀ d ∈ ds, 0 ≤ d.token) :
    (∀ (o : Nat) (d : Delim), (processDelims ds)[o]? = some d → 0 ≤ d.end_ → (o : Int) < d.end_ ∧ d.end_ < (ds.length : Int))
    ∧ Laminar (processDelims ds) ∧ (processDelims ds).length = ds.length :=
  have h := processDelims_fam ds hend htok
  ⟨h.pairs, h.lam, (processDelims_shape ds).1⟩

/-- **C02e.pairs_facts** — every record keeps its marker, token position and run length; an `end` is −1 as before or a valid index; a
closer closes one opener; no delimiter is both the opener of one pair and the closer of another -/
theorem pairs_facts (ds : List Delim) (hend : ∀ d ∈ ds, d.end_ = -1) (htok : ∀ d ∈ ds, 0 ≤ d.token) :
    SameShape ds (processDelims ds)
    ∧ (∀ (i : Nat) (d : Delim), (processDelims ds)[i]? = some d → d.end_ = -1 ∨ ((i : Int) < d.end_ ∧ d.end_ < (ds.length : Int)))
    ∧ (∀ (o1 o2 : Nat) (d1 d2 : Delim), (processDelims ds)[o1]? = some d1 → (processDelims ds)[o2]? = some d2 → 0 ≤ d1.end_ →
        d1.end_ = d2.end_ → o1 = o2)
    ∧ (∀ (o o2 : Nat) (d d2 : Delim), (processDelims ds)[o]? = some d → (processDelims ds)[o2]? = some d2 → 0 ≤ d.end_ → 0 ≤ d2.end_ →
        d2.end_ ≠ (o : Int)) := by
  have h := processDelims_fam ds (fun d hd => by rw [hend d hd]; decide) htok
  have hshape := processDelims_shape ds
  refine ⟨hshape, ?_, h.inj, ?_⟩
  · intro i d hd
    obtain ⟨d0, a1, _, _, _, a5⟩ := hshape.2 i d hd
    rcases a5 with g | g
    · left; rw [g]; exact hend d0 (List.mem_of_getElem? a1)
    · right; exact h.pairs i d hd g
  · intro o o2 d d2 ho ho2 he he2 heq
    have h1 := h.opn o d ho he
    have h2 := h.clo o2 d2 d ho2 he2 (by rw [heq]; simpa using ho)
    rw [h1] at h2; cases h2

/-! non-vacuity: `*a _b* c_` — the second pair would cross the first and is not formed; `**a *b* c**` — nested pairs -/
def dl (marker length : Nat) (token : Int) (o c : Bool) : Delim := { marker := marker, length := length, token := token, end_ := -1, open_ := o, close := c }

example : (processDelims [dl 42 1 0 true false, dl 95 1 2 true false, dl 42 1 4 false true, dl 95 1 6 false true]).map (·.end_) = [2, -1, -1, -1] := by
  decide

example : (processDelims [dl 42 2 0 true false, dl 42 2 1 true false, dl 42 1 3 true false, dl 42 1 5 false true, dl 42 2 7 false true, dl 42 2 8 false true]).map (·.end_)
    = [5, 4, 3, -1, -1, -1] := by decide

example : (∀ d ∈ [dl 42 1 0 true false, dl 95 1 2 true false, dl 42 1 4 false true, dl 95 1 6 false true], d.end_ < 0) ∧
    (∀ d ∈ [dl 42 1 0 true false, dl 95 1 2 true false, dl 42 1 4 false true, dl 95 1 6 false true], 0 ≤ d.token) := by decide

end MdIt.C02e
