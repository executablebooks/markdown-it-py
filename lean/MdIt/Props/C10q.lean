import MdIt.Props.C10n
import MdIt.Proofs.Str
import MdIt.Props.C08f
/-!
# C10 (continued) — no `|` in the source, no table: the table rule never fires on a pipe-free document

`NPS s seg` ("if no line of `s` holds a `|`, no token of `seg` has a table-only type") is carried through the chains with the table rule
**on**: the rule cannot match on a pipe-free state (`tableHead_pipe`), the other rules emit no table token, and the containers
hand pipe-freeness to their nested runs because the inner line tables hold suffixes of the outer ones (`SufLines`).  Not proved:
that the rest of the stream is identical with the rule off; the oracle (near-table family) and the `fullparset` tie decide that.
-/
namespace MdIt.C10
open MdIt.C01 MdIt.C02

def NoPipeL (lines : List BLine) : Prop := ∀ l ∈ lines, '|' ∉ l.text

abbrev NPS : BState → List Tok → Prop := Toks fun lines t => NoPipeL lines → t.type ∉ tblOnly

theorem noPipe_suf {a b : List BLine} (h : SufLines a b) (ha : NoPipeL a) : NoPipeL b := by
  intro lb hlb hp
  obtain ⟨i, hi⟩ := List.getElem?_of_mem hlb
  obtain ⟨la, hla, hsuf, _⟩ := h.2 i lb hi
  exact ha la (List.mem_of_getElem? hla) (hsuf.subset hp)

theorem nps_wrap : QuoteWrap NPS :=
  quoteWrap_tokens (fun lines t => NoPipeL lines → t.type ∉ tblOnly) (fun _ _ _ hs h hn => h (noPipe_suf hs hn)) fun _ t h _ => by
    rcases h with h | h <;> (rw [h]; decide +kernel)

theorem nps_listWrap : ListWrap NPS :=
  listWrap_tokens (fun lines t => NoPipeL lines → t.type ∉ tblOnly) (fun _ _ _ hs h hn => h (noPipe_suf hs hn))
    (fun _ t u he h hn => by rw [(hidden_eq_fields he).2.2.1]; exact h hn) fun _ t h _ => by
    simp only [List.mem_cons, List.not_mem_nil, or_false] at h
    rcases h with h | h | h | h | h | h <;> (rw [h]; decide +kernel)

theorem mTypes_to_nps (c : MCfg) (P) (r : BRule) (h : SegOK P (TypesOf (mAllowed c)) r) : SegOK P NPS r :=
  h.mono fun _ _ h2 t ht _ => mAllowed_not_tbl c _ (h2 t ht)

theorem nps_table (P : BState → Nat → Prop) (codeOn : Bool) (terms : List BRule) (hin : ∀ t ∈ terms, SilentInert t) (ws : List Nat) :
    SegOK P NPS (ruleTable codeOn terms ws) :=
  segOK_of_leaf (table_leaf P codeOn terms hin ws) fun _ _ _ _ _ _ ⟨_, _, _, _, hh, _, _⟩ _ _ hnp => by
    -- no match on a pipe-free table of lines
    obtain ⟨l0, hl, hp⟩ := tableHead_pipe hh
    exact absurd hp (hnp l0 (List.mem_of_getElem? hl))

theorem nps_tLeaves (c : TCfg) (ws : List Nat) (mn : Int) (P : BState → Nat → Prop) :
    ∀ r ∈ tLeaves c ws mn, SegOK P NPS r :=
  forall_tLeaves (fun _ => nps_table _ _ _ (mTerminators_inert c.toMCfg ws mn) ws)
    fun r h => mTypes_to_nps c.toMCfg _ _ (typesOK_leavesM P c.toMCfg (tParaTerms_inertE c ws mn) ws r h)

theorem normalize_pipe (src : List Char) (h : '|' ∉ src) : '|' ∉ normalize src := by
  intro hp
  unfold normalize normNul at hp
  rw [List.mem_map] at hp
  obtain ⟨a, ha, he⟩ := hp
  split at he
  · exact absurd he (by decide)
  · subst he; exact h (normNewlines_mem (by decide) src ha)

theorem scanGo_chars : ∀ (src cur : List Char) (found : Bool) (i o : Nat) (l : BLine), l ∈ scanGo src cur found i o →
    ∀ ch ∈ l.text, ch ∈ cur ∨ ch ∈ src := by
  intro src
  induction src with
  | nil => intro cur found i o l hl; simp [scanGo] at hl
  | cons c rest ih =>
    intro cur found i o l hl ch hch
    simp only [scanGo] at hl
    split at hl
    · rcases ih _ _ _ _ l hl ch hch with h | h
      · simp only [List.mem_append, List.mem_singleton] at h
        rcases h with h | h
        · exact .inl h
        · exact .inr (by simp [h])
      · exact .inr (by simp [h])
    · split at hl
      · simp only [List.mem_cons] at hl
        rcases hl with rfl | hl
        · exact .inl (by simpa [mkLine] using hch)
        · rcases ih _ _ _ _ l hl ch hch with h | h
          · cases h
          · exact .inr (by simp [h])
      · split at hl
        · simp only [List.mem_singleton] at hl
          subst hl
          simp only [mkLine, List.mem_append, List.mem_singleton] at hch
          rcases hch with h | h
          · exact .inl h
          · exact .inr (by simp [h])
        · rcases ih _ _ _ _ l hl ch hch with h | h
          · simp only [List.mem_append, List.mem_singleton] at h
            rcases h with h | h
            · exact .inl h
            · exact .inr (by simp [h])
          · exact .inr (by simp [h])

theorem init_noPipe (src : List Char) (h : '|' ∉ src) : NoPipeL (initBState (normalize src)).lines := by
  intro l hl hp
  simp only [initBState, List.mem_append, List.mem_singleton] at hl
  rcases hl with hl | rfl
  · rcases scanGo_chars _ _ _ _ _ l hl '|' hp with h' | h'
    · cases h'
    · exact normalize_pipe src h h'
  · simp [sentinelLine] at hp

/-- **C10.t_pipe_free_no_table** — the block parse with the table rule enabled, on a source without `|`, yields no token of a
table-only type, at any depth inside quotes and lists -/
theorem t_pipe_free_no_table (ext : IExt) (lx : LExt) (c : TCfg) (hnr : c.reference = false) (ws : List Nat) (maxNesting : Int) (src : List Char)
    (hnp : '|' ∉ src) (st : BState) (h : tParse ext lx c ws maxNesting src = .ok st) : ∀ t ∈ st.tokens, t.type ∉ tblOnly := by
  obtain ⟨segs, hts, hS⟩ := tParse_segs NPS nps_wrap nps_listWrap ext lx c hnr ws maxNesting
    (fun P => nps_tLeaves c ws maxNesting P) src st h
  exact fun t ht => toks_flatten hts hS t ht (init_noPipe src hnp)

/-! non-vacuity: the document of seeded change C10l — a delimiter-row-shaped line below text, then a list marker that may not interrupt a
paragraph — with the table rule on: one paragraph of four lines, no table token -/
example : C01.stateTypes (tParse { entity := fun _ => none, reformat := id, normText := id, html := false }
      { hasRefs := false, normRef := id, storeLabels := false, refs := fun _ => none }
      { code := true, fence := true, hr := true, heading := true, htmlBlock := true, lheading := false, html := false, reference := false,
        inlineDefs := false, table := true } [32, 9, 10, 11, 12, 13] 20
      "abc\ndef\n:-:\n2. item\n".toList)
    = some (["paragraph_open", "inline", "paragraph_close"], 4) := by
  decide +kernel

/-- **C10.fullT_pipe_free_no_table** — `MarkdownIt.parse` with the table rule enabled, on a source without `|`, returns no token of
a table-only type at top level -/
theorem fullT_pipe_free_no_table (cls : QCls) (ext : IExt) (lx : LExt) (tc : TCfg) (hnr : tc.reference = false) (ic : ICfg) (ws : List Nat)
    (mn : Int) (d : Nat) (src : List Char) (hnp : '|' ∉ src) (ts : List Tok) (refs dups)
    (h : fullParseT cls ext lx tc ic ws mn d src = .ok (ts, refs, dups)) : ∀ t ∈ ts, t.type ∉ tblOnly := by
  obtain ⟨st, hb, hc, _⟩ := fullParseT_iff.1 h
  exact coreTail_types (P := (· ∉ tblOnly)) hc (t_pipe_free_no_table ext lx tc hnr ws mn src hnp st hb)

end MdIt.C10
