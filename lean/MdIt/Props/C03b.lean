import MdIt.Props.C03
import MdIt.Props.C01b
/-!
# C03 (continued) — the map contract proved for the modelled leaf rules; the block tokens of the sub-parser are staged

`MapOK` is read off the leaf forms of `code`, `fence`, `hr`, `heading`, `paragraph`; hence the token list the modelled parse returns
is `Staged 0 lineMax`.
-/
namespace MdIt.C03
open MdIt.C01

private theorem mapsIn_three (a b : Nat) (t1 t2 t3 : Tok) (h1 : ∀ x y, t1.map = some (x, y) → a ≤ x ∧ x < y ∧ y ≤ b)
    (h2 : ∀ x y, t2.map = some (x, y) → a ≤ x ∧ x < y ∧ y ≤ b) (h3 : ∀ x y, t3.map = some (x, y) → a ≤ x ∧ x < y ∧ y ≤ b) :
    MapsIn a b [t1, t2, t3] := by
  intro t' ht x y hm
  simp at ht
  rcases ht with rfl | rfl | rfl
  · exact h1 x y hm
  · exact h2 x y hm
  · exact h3 x y hm

private theorem some_map {a b x y : Nat} (h : some (a, b) = some (x, y)) : a = x ∧ b = y := by
  cases h; exact ⟨rfl, rfl⟩

theorem mapOK_of_leaf {P pts D r} (h : BlockLeaf P pts D r)
    (hD : ∀ s line endLine n seg, line < n → D s line endLine n seg → MapsIn line n seg) : MapOK P r := by
  refine ⟨?_, fun _ _ _ _ hc hr => h.miss hc hr⟩
  intro s line endLine s' hc hr
  obtain ⟨n, seg, rfl, h1, _, h3⟩ := h.hit hc hr
  exact ⟨seg, rfl, hD s line endLine n seg h1 h3⟩

theorem mapsIn_leaf {line n : Nat} (h : line < n) (s : BState) (a b : String) (k : Int) (c d e f) :
    MapsIn line n [pushedTok s a b k (some (line, n)) c d e f] := by
  intro t ht x y hm
  rw [List.mem_singleton] at ht; subst ht
  obtain ⟨rfl, rfl⟩ := some_map hm
  exact ⟨Nat.le_refl _, h, Nat.le_refl _⟩

theorem mapOK_hr (P) (codeOn : Bool) : MapOK P (ruleHr codeOn) :=
  C03.mapOK_of_leaf (hr_shape P codeOn) fun s _ _ _ _ h ⟨_, _, _, _, _, _, hseg⟩ => hseg ▸ mapsIn_leaf h s _ _ _ _ _ _ _

theorem mapOK_code (P) (codeOn : Bool) : MapOK P (ruleCode codeOn) :=
  C03.mapOK_of_leaf (code_shape P codeOn) fun s _ _ _ _ h ⟨_, _, _, hseg⟩ => hseg ▸ mapsIn_leaf h s _ _ _ _ _ _ _

theorem mapOK_fence (P) (codeOn : Bool) : MapOK P (ruleFence codeOn) :=
  C03.mapOK_of_leaf (fence_shape P codeOn) fun s _ _ _ _ h ⟨_, _, _, _, hseg, _⟩ => hseg ▸ mapsIn_leaf h s _ _ _ _ _ _ _

theorem mapsIn_triple {a b : Nat} (s : BState) (tyOpen tyClose tag mk : String) (m1 m2 : Nat × Nat) (content : String)
    (h1 : a ≤ m1.1 ∧ m1.1 < m1.2 ∧ m1.2 ≤ b) (h2 : a ≤ m2.1 ∧ m2.1 < m2.2 ∧ m2.2 ≤ b) :
    MapsIn a b (tripleToks s tyOpen tyClose tag mk m1 m2 content) :=
  mapsIn_three _ _ _ _ _ (fun x y hm => by obtain ⟨rfl, rfl⟩ := some_map hm; exact h1)
    (fun x y hm => by obtain ⟨rfl, rfl⟩ := some_map hm; exact h2) (fun x y hm => by cases hm)

theorem mapOK_heading (P) (codeOn : Bool) (ws : List Nat) : MapOK P (ruleHeading codeOn ws) :=
  C03.mapOK_of_leaf (heading_shape P codeOn ws) fun s _ _ _ _ h ⟨_, _, _, _, hseg⟩ =>
    hseg ▸ mapsIn_triple s _ _ _ _ _ _ _ ⟨Nat.le_refl _, h, Nat.le_refl _⟩ ⟨Nat.le_refl _, h, Nat.le_refl _⟩

theorem mapOK_paragraphE (P : BState → Nat → Prop) (terms : List BRule) (hin : ∀ t ∈ terms, SilentInertE t) (ws : List Nat) :
    MapOK P (ruleParagraph terms ws) :=
  C03.mapOK_of_leaf (paragraph_shapeE P terms hin ws) fun s _ _ _ _ h ⟨_, hseg⟩ =>
    hseg ▸ mapsIn_triple s _ _ _ _ _ _ _ ⟨Nat.le_refl _, h, Nat.le_refl _⟩ ⟨Nat.le_refl _, h, Nat.le_refl _⟩

theorem mapOK_paragraph (P : BState → Nat → Prop) (terms : List BRule) (hin : ∀ t ∈ terms, SilentInert t) (ws : List Nat) :
    MapOK P (ruleParagraph terms ws) :=
  mapOK_paragraphE P terms (inertE_of_inert hin) ws

theorem mapOK_leaves (P : BState → Nat → Prop) (c : MiniCfg) {pt : List BRule} (hpt : ∀ t ∈ pt, SilentInertE t) (ws : List Nat) :
    ∀ r ∈ leaves c pt ws, MapOK P r :=
  forall_leaves (fun _ => mapOK_code _ _) (fun _ => mapOK_fence _ _) (fun _ => mapOK_hr _ _) (fun _ => mapOK_heading _ _ _)
    (mapOK_paragraphE _ _ hpt ws)

theorem miniChain_mapOK (c : MiniCfg) (ws : List Nat) : ∀ r ∈ miniChain c ws, MapOK TopCtx r :=
  mapOK_leaves _ c (inertE_of_inert (miniTerminators_inert c ws)) ws

/-- **C03.mini_staged** — the block tokens the modelled parse returns are staged inside the document:
all maps in `[0, number of lines]`, non-empty, sibling blocks increasing and disjoint -/
theorem mini_staged (c : MiniCfg) (ws : List Nat) (maxNesting : Int) (src : List Char) (ts : List Tok)
    (h : miniParse c ws maxNesting src = .ok ts) : Staged 0 (initBState (normalize src)).lineMax ts :=
  parseWith_ind _ h (.nil _ _) fun s' hs' => by
    obtain ⟨new, hn, hst⟩ := loop_maps_staged TopCtx topCtx_closed (miniChain c ws) (miniChain_ok c ws) (miniChain_mapOK c ws)
      maxNesting (initBState (normalize src)).lineMax _ 0 false (initBState (normalize src)) s' (initBState_len _) (Nat.le_refl _) rfl hs'
    rw [hn]; exact hst

end MdIt.C03
