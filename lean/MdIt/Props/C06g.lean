import MdIt.Props.C06e
/-!
# C06 (continued) — the list-indent law: the list rule on the indented document

`listify marker k D` puts a list marker and `k` spaces before the first line of `D` and `W = |marker| + k` spaces before every
other line.  On it the list rule finds the marker (`Marker.facts`); the nested run of its one item starts in a state that is
`TR`-related, with column shift `W`, to the start state of `D` (`listify_TR`), so it is the run on `D` two levels deeper; the rule
returns one list with one item over all lines (`list_rule_law`), up to `hidden`: a tight list hides the item's direct paragraphs.
-/
namespace MdIt.C06e
open MdIt.C01 MdIt.C02 MdIt.C06 MdIt.C07

def indentLine (W : Nat) (l : List Char) : List Char := List.replicate W ' ' ++ l

def listify (marker : List Char) (k : Nat) (l0 : List Char) (rest : List (List Char)) : List (List Char) :=
  (marker ++ List.replicate k ' ' ++ l0) :: rest.map (indentLine (marker.length + k))

/-- `Marker m ordered mc`: a list marker, whether it is ordered, and its marker character (the bullet, or the delimiter behind the 1–9 digits) -/
inductive Marker : List Char → Bool → Char → Prop where
  | bullet (m : Char) : (m = '*' ∨ m = '-' ∨ m = '+') → Marker [m] false m
  | ordered (d0 : Char) (ds : List Char) (d : Char) : isAsciiDigit d0 = true → (∀ c ∈ ds, isAsciiDigit c = true) → ds.length ≤ 8 →
      (d = ')' ∨ d = '.') → Marker (d0 :: ds ++ [d]) true d

def MarkerChar (c : Char) : Prop := c = '*' ∨ c = '-' ∨ c = '+' ∨ c = ')' ∨ c = '.' ∨ isAsciiDigit c = true

theorem MarkerChar.ne {c : Char} (h : MarkerChar c) :
    c ≠ '\n' ∧ c ≠ '\t' ∧ c ≠ '\r' ∧ c ≠ '\x00' ∧ c ≠ ' ' ∧ c ≠ '>' ∧ c ≠ '`' ∧ c ≠ '~' := by
  rcases h with h | h | h | h | h | h
  · subst h; decide
  · subst h; decide
  · subst h; decide
  · subst h; decide
  · subst h; decide
  · refine ⟨?_, ?_, ?_, ?_, ?_, ?_, ?_, ?_⟩ <;> (intro e; subst e; revert h; decide)

theorem Marker.chars {m : List Char} {o : Bool} {d : Char} (h : Marker m o d) : ∀ c ∈ m, MarkerChar c := by
  unfold MarkerChar
  cases h with
  | bullet m hm =>
    intro c hc
    obtain rfl := List.mem_singleton.1 hc
    rcases hm with h | h | h <;> simp [h]
  | ordered d0 ds d h0 hds _ hd =>
    intro c hc
    simp only [List.cons_append, List.mem_cons, List.mem_append, List.not_mem_nil, or_false] at hc
    rcases hc with rfl | hc | rfl
    · simp [h0]
    · simp [hds c hc]
    · rcases hd with h | h <;> simp [h]

theorem Marker.pos {m : List Char} {o : Bool} {d : Char} (h : Marker m o d) : 0 < m.length := by
  cases h <;> simp

theorem ordLoop_digits (d : Char) (hd : d = ')' ∨ d = '.') (x : List Char) : ∀ (ds : List Char) (n : Nat), (∀ c ∈ ds, isAsciiDigit c = true) →
    n + ds.length ≤ 9 → ordLoop (ds ++ d :: ' ' :: x) n = some (n + ds.length + 1) := by
  intro ds
  induction ds with
  | nil =>
    intro n _ _
    have hnd : isAsciiDigit d = false := by rcases hd with h | h <;> subst h <;> decide
    have hdd : (d == ')' || d == '.') = true := by rcases hd with h | h <;> subst h <;> decide
    simp [ordLoop, hnd, hdd, isSpaceTab]
  | cons c cs ih =>
    intro n hds hn
    simp only [List.length_cons] at hn
    have hc := hds c (by simp)
    have h10 : ¬ (n + 1 ≥ 10) := by omega
    simp only [List.cons_append, ordLoop, hc, ↓reduceIte, h10]
    rw [ih (n + 1) (fun q hq => hds q (by simp [hq])) (by omega)]
    simp only [List.length_cons]; congr 1; omega

/-- what the list rule reads of the marker line -/
theorem Marker.facts {m : List Char} {o : Bool} {d : Char} (h : Marker m o d) (k : Nat) (hk : 1 ≤ k) (l0 : List Char) :
    lead (m ++ List.replicate k ' ' ++ l0) = 0 ∧
    skipOrdered (lineRec (m ++ List.replicate k ' ' ++ l0)) = (if o then some m.length else none) ∧
    (o = false → skipBullet (lineRec (m ++ List.replicate k ' ' ++ l0)) = some m.length) ∧
    (m ++ List.replicate k ' ' ++ l0)[m.length - 1]? = some d := by
  obtain ⟨j, rfl⟩ : ∃ j, k = j + 1 := ⟨k - 1, by omega⟩
  cases h with
  | bullet _ hm =>
    obtain ⟨_, n2, _, _, n5, _⟩ := ((Marker.bullet d hm).chars d (List.mem_singleton.2 rfl)).ne
    have hlead : lead ([d] ++ List.replicate (j + 1) ' ' ++ l0) = 0 := by
      simp [lead, isSpaceTab, n2, n5]
    have hnd : isAsciiDigit d = false := by rcases hm with h | h | h <;> subst h <;> decide
    have hbul : (d == '*' || d == '-' || d == '+') = true := by rcases hm with h | h | h <;> subst h <;> decide
    refine ⟨hlead, ?_, ?_, ?_⟩
    · unfold skipOrdered
      rw [(lineRec_lead0 hlead).1]
      simp [List.replicate_succ, hnd]
    · intro _
      unfold skipBullet
      rw [(lineRec_lead0 hlead).1]
      simp [List.replicate_succ, hbul, isSpaceTab]
    · simp
  | ordered d0 ds d h0 hds hlen hd =>
    obtain ⟨_, n2, _, _, n5, _⟩ := ((Marker.ordered d0 ds d h0 hds hlen hd).chars d0 (List.mem_cons_self ..)).ne
    have hlead : lead (d0 :: ds ++ [d] ++ List.replicate (j + 1) ' ' ++ l0) = 0 := by
      simp [lead, isSpaceTab, n2, n5]
    refine ⟨hlead, ?_, ?_, ?_⟩
    · unfold skipOrdered
      rw [(lineRec_lead0 hlead).1]
      have hlen2 : ¬ ((d0 :: ds ++ [d] ++ List.replicate (j + 1) ' ' ++ l0).length < 2) := by simp; omega
      have e : d0 :: ds ++ [d] ++ List.replicate (j + 1) ' ' ++ l0 = d0 :: (ds ++ d :: ' ' :: (List.replicate j ' ' ++ l0)) := by
        simp [List.replicate_succ]
      rw [e] at hlen2 ⊢
      simp only [hlen2, ↓reduceIte, h0, Bool.not_true, Bool.false_eq_true]
      rw [ordLoop_digits d hd _ ds 1 hds (by omega)]
      simp only [List.length_cons, List.length_append, List.length_nil]
      congr 1; omega
    · intro h; cases h
    · have : (d0 :: ds ++ [d]).length - 1 = (d0 :: ds).length := by simp
      rw [this, List.append_assoc, List.append_assoc]
      rw [List.getElem?_append_right (by simp)]
      simp

theorem lead_indent (W : Nat) (l : List Char) : lead (indentLine W l) = W + lead l := by
  induction W with
  | zero => simp [indentLine]
  | succ w ih =>
    have : indentLine (w + 1) l = ' ' :: indentLine w l := by simp [indentLine, List.replicate_succ]
    rw [this]
    simp only [lead, isSpaceTab, beq_self_eq_true, Bool.true_or, ↓reduceIte, ih]; omega

theorem lLoop_spaces (bs : Nat) (c : Char) (cs : List Char) (hc1 : c ≠ ' ') (hnt : '\t' ∉ c :: cs) (k : Nat) (off : Int) (m : Nat) :
    lLoop bs off (List.replicate k ' ' ++ c :: cs) m = (off + k, m + k) := by
  have hc2 : c ≠ '\t' := fun e => hnt (by simp [e])
  have hl : lead (List.replicate k ' ' ++ c :: cs) = k := (lead_indent k (c :: cs)).trans (by simp [lead, isSpaceTab, hc1, hc2])
  rw [lLoop_eq_qLoop, qLoop_spaces _ _ _ _ _ (fun h => (List.mem_append.1 h).elim (fun h => absurd (List.eq_of_mem_replicate h) (by decide)) hnt), hl]

theorem il_indent (W : Nat) (l : List Char) : IL W (lineRec l) (lineRec (indentLine W l)) := by
  refine ⟨?_, ?_, ⟨List.replicate W ' ', by simp, by simp, rfl⟩, rfl⟩
  · show ((lead (indentLine W l) : Nat) : Int) = (lead l : Nat) + W
    rw [lead_indent]; omega
  · show lead (indentLine W l) = lead l + W
    rw [lead_indent]; omega

def itemOpenTok (mc : Char) (info : String) (n : Nat) : Tok :=
  .mk "list_item_open" "li" 1 [] (some (0, n)) 1 none "" (String.singleton mc) info [] true false

def listOpenTok0 (ordered : Bool) (mc : Char) (mv n : Nat) : Tok :=
  .mk (if ordered then "ordered_list_open" else "bullet_list_open") (if ordered then "ol" else "ul") 1
    (if ordered && mv != 1 then [("start", .i mv)] else []) (some (0, n)) 0 none "" (String.singleton mc) "" [] true false

theorem listify_first (marker : List Char) (k : Nat) (l0 : List Char) (rest : List (List Char)) :
    (stD (listify marker k l0 rest)).lines[0]? = some (lineRec (marker ++ List.replicate k ' ' ++ l0)) := by
  simp [stD, listify]

theorem listItems_last (codeOn ordered : Bool) (mc : Char) (terms inner : List BRule) (mn : Int) (endLine f : Nat) (st : ListSt)
    (s6 : BState) (nt pe : Bool) (hlt : st.startLine < endLine)
    (hit : listItem ordered mc inner mn endLine st.s st.startLine st.markerLen = .ok (s6, nt, pe)) (h6 : endLine ≤ s6.line) :
    listItems codeOn ordered mc terms inner mn endLine (f + 1) st
      = .ok { s := s6, startLine := s6.line, markerLen := st.markerLen, tight := (if (!nt || st.prevEmptyEnd) = true then false else st.tight), prevEmptyEnd := pe } := by
  simp only [listItems, hit]
  rw [if_neg (fun h => h hlt), if_pos h6]

theorem listFinish_hidEq (s : BState) (ordered : Bool) (mc : Char) (sl : Nat) (st : ListSt) (x : Tok) (mid : List Tok)
    (hs : s.tokens = []) (ht : st.s.tokens = x :: mid) :
    HidEq (listFinish s ordered mc sl st).tokens (x.setMap (some (sl, st.startLine)) :: mid ++ [listCloseTok ordered mc st.s.level]) := by
  obtain ⟨seg', e1, e2⟩ := listFinish_tokens s ordered mc sl st x mid (by rw [ht, hs]; rfl)
  rw [e1, hs]; exact e2

theorem listOpenTok0_eq (s : BState) (hs : s.level = 0) (ordered : Bool) (mc : Char) (mv n : Nat) :
    (listOpenTok s ordered mc mv 0).setMap (some (0, n)) = listOpenTok0 ordered mc mv n := by
  unfold listOpenTok listOpenTok0
  simp only
  split <;> simp [pushedTok, Tok.setMap, Tok.setAttrs, *]

section law
variable {l0 : List Char} {rest : List (List Char)} (hcl : ∀ l ∈ l0 :: rest, Clean l ∧ '>' ∉ l) {c0 : Char} {cs0 : List Char}
  (hl0 : l0 = c0 :: cs0) (hc0 : c0 ≠ ' ') {marker : List Char} {ordered : Bool} {mc : Char} (hmk : Marker marker ordered mc) {k : Nat}
  (hk1 : 1 ≤ k) (hk4 : k ≤ 4)
include hcl hl0 hc0 hmk hk1

/-- the first line as the list rule rewrites it (`listEnter`) is `l0` behind `|marker| + k` columns, the others are indented by as much -/
theorem listify_TR (s1 : BState) (hs1 : s1.layout = (stD (listify marker k l0 rest)).layout) (hline : s1.line = 0) (hlev : s1.level = 2) :
    TR false false 2 0 (marker.length + k) (rest.length + 1) (-1) 0 [] s1.tokens (stD (l0 :: rest))
      (listEnter s1 (lineRec (marker ++ List.replicate k ' ' ++ l0)) 0 marker.length ((marker.length : Int) + (k : Int), k) ((marker.length + k : Nat) : Int)) := by
  have hlead := (hmk.facts k hk1 l0).1
  have hc0t : c0 ≠ '\t' := fun e => (hcl l0 (by simp)).1.2.1 (by rw [hl0, e]; simp)
  have hlead0 : lead l0 = 0 := by rw [hl0]; simp [lead, isSpaceTab, hc0, hc0t]
  have hsl : s1.lines = (stD (listify marker k l0 rest)).lines := congrArg Layout.lines hs1
  have hmax : s1.lineMax = rest.length + 1 := (congrArg Layout.lineMax hs1).trans (by simp [BState.layout, stD, listify])
  have hblk : s1.blkIndent = 0 := congrArg Layout.blkIndent hs1
  have hil0 : IL (marker.length + k) (lineRec l0) ((lineRec (marker ++ List.replicate k ' ' ++ l0)).retab
      ((lineRec (marker ++ List.replicate k ' ' ++ l0)).tShift + marker.length + k) ((marker.length : Int) + (k : Int))) := by
    refine ⟨?_, ?_, ⟨marker ++ List.replicate k ' ', by simp, ?_, rfl⟩, rfl⟩
    · show (marker.length : Int) + (k : Int) = ((lead l0 : Nat) : Int) + ((marker.length + k : Nat) : Int)
      rw [hlead0]; omega
    · show lead (marker ++ List.replicate k ' ' ++ l0) + marker.length + k = lead l0 + (marker.length + k)
      rw [hlead, hlead0]; omega
    · intro hm
      rcases List.mem_append.1 hm with hm | hm
      · exact (hmk.chars _ hm).ne.2.1 rfl
      · cases (List.mem_replicate.1 hm).2
  refine ⟨?_, ?_, ?_, hline, rfl, hmax, rfl, Int.le_refl _, ?_, ?_, rfl, Or.inr ⟨by omega, rfl, hblk⟩, (fun h => by cases h), (fun h => by cases h), ⟨[], rfl, (List.append_nil _).symm⟩⟩
  · intro i l hl
    show ∃ l', (List.set s1.lines 0 _)[i + 0]? = some l' ∧ _
    rw [hsl, Nat.add_zero]
    cases i with
    | zero =>
      obtain rfl : lineRec l0 = l := by simpa [stD] using hl
      exact ⟨_, List.getElem?_set_self (by simp [stD]), Or.inl hil0, fun _ => hil0⟩
    | succ j =>
      rw [List.getElem?_set_ne (by omega)]
      by_cases hj : j < rest.length
      · rw [stD_get (l0 :: rest) (j + 1) (by simpa using hj)] at hl
        obtain rfl := Option.some.inj hl
        have hil := il_indent (marker.length + k) rest[j]
        refine ⟨lineRec (indentLine (marker.length + k) rest[j]), ?_, Or.inl hil, fun _ => hil⟩
        rw [stD_get (listify marker k l0 rest) (j + 1) (by simpa [listify] using hj)]
        simp [listify]
      · obtain rfl : j = rest.length := by
          have := (List.getElem?_eq_some_iff.1 hl).1
          rw [stD_len] at this; simp at this; omega
        have hs := stD_sentinel (l0 :: rest)
        rw [List.length_cons, hl] at hs
        obtain rfl := Option.some.inj hs
        refine ⟨sentinelLine, ?_, Or.inr ⟨rfl, rfl, rfl⟩, fun h => by omega⟩
        have := stD_sentinel (listify marker k l0 rest)
        simpa only [listify, List.length_cons, List.length_map] using this
  · show (List.set s1.lines 0 _).length = (stD (l0 :: rest)).lines.length + 0
    rw [List.length_set, hsl, stD_len, stD_len]; simp [listify]
  · exact forall_stD (fun x hx => ⟨(hcl x hx).1.2.1, (hcl x hx).2, by simp [lineRec, mkLine]⟩) (by simp [sentinelLine])
  · show ((marker.length + k : Nat) : Int) = 0 + ((marker.length + k : Nat) : Int)
    omega
  · show s1.level = (0 : Int) + 2
    rw [hlev]; rfl

include hk4

theorem list_item_law (inner inner' : List BRule) (mn : Int) (s : BState)
    (hs : s.layout = (stD (listify marker k l0 rest)).layout) (hsline : s.line = 0) (hslev : s.level = 1)
    (hin : ShSims 2 0 (marker.length + k) inner inner' ∨ inner = [])
    (tD : BState) (hD : blockTokenize inner mn (stD (l0 :: rest)) 0 (rest.length + 1) = .ok tD) (hline : tD.line = rest.length + 1)
    (hfr : (stD (l0 :: rest)).FrameEq tD) :
    ∃ s6 nt pe, listItem ordered mc inner' (mn + 2) (rest.length + 1) s 0 marker.length = .ok (s6, nt, pe)
      ∧ s6.line = rest.length + 1 ∧ s6.lines.length = rest.length + 2 ∧ s6.level = 1
      ∧ s6.tokens = s.tokens ++ (itemOpenTok mc (if ordered = true then String.ofList (List.take (marker.length - 1) (marker ++ List.replicate k ' ' ++ l0)) else "") (rest.length + 1)
          :: tD.tokens.map (Tok.shift 2) ++ [itemCloseTok mc 2]) := by
  have hnt0 : '\t' ∉ c0 :: cs0 := hl0 ▸ (hcl l0 (by simp)).1.2.1
  obtain ⟨hbody, hsc, _⟩ := lineRec_lead0 (hmk.facts k hk1 l0).1
  have hS0 : s.lines[0]? = some (lineRec (marker ++ List.replicate k ' ' ++ l0)) := by
    rw [show s.lines = _ from congrArg Layout.lines hs]; exact listify_first ..
  have hdrop : List.drop marker.length (marker ++ List.replicate k ' ' ++ l0) = List.replicate k ' ' ++ c0 :: cs0 := by
    rw [List.append_assoc, List.drop_left, hl0]
  have hce : decide ((List.replicate k ' ' ++ c0 :: cs0).length ≤ k) = false := by simp
  have hind : listIndentOf (lineRec (marker ++ List.replicate k ' ' ++ l0)) marker.length ((marker.length : Int) + (k : Int), k)
      = ((marker.length + k : Nat) : Int) := by
    simp only [listIndentOf, hsc, hbody, hdrop, hce, Bool.false_eq_true, ↓reduceIte]
    split <;> omega
  unfold listItem
  simp only [getL_of_here hS0, hbody, hsc, hdrop, Int.zero_add, lLoop_spaces _ c0 cs0 hc0 hnt0, Nat.zero_add, hce, hind]
  generalize (if ordered = true then String.ofList (List.take (marker.length - 1) (marker ++ List.replicate k ' ' ++ l0)) else "") = info
  have hsr := listify_TR hcl hl0 hc0 hmk hk1 (s.pushFull "list_item_open" "li" 1 (some (0, 0)) none "" (String.singleton mc) info)
    hs hsline (by rw [pushFull_level_open, hslev]; rfl)
  obtain ⟨t', hr', hsr4⟩ := blockTokenize_sh hin mn 0 (rest.length + 1) tD hsr (Nat.le_refl _) hD
  have hline4 : t'.line = rest.length + 1 := by rw [hsr4.line, hline]
  have hlen4 : t'.lines.length = rest.length + 2 := by rw [hsr4.len, hfr.lines, stD_len]; rfl
  have hlev4 : t'.level = 2 := by rw [hsr4.level, hfr.level]; rfl
  have hnest : listNested inner' (mn + 2) (rest.length + 1) _ 0 false = .ok t' := hr'
  rw [hnest]
  simp only [listClose_eq]
  obtain ⟨pe, hpe⟩ : ∃ pe, (if t'.line - 0 > 1 then t'.isEmpty ((t'.line : Int) - 1) else Except.ok false) = .ok pe := by
    by_cases h1 : t'.line - 0 > 1
    · rw [if_pos h1]
      have := isEmpty_ok t' (t'.line - 1) (by rw [hlen4, hline4]; omega)
      rwa [show ((t'.line - 1 : Nat) : Int) = (t'.line : Int) - 1 by omega] at this
    · exact ⟨false, if_neg h1⟩
  obtain ⟨lcur, hlcur⟩ : ∃ lcur, t'.lines[0]? = some lcur := ⟨t'.lines[0]'(by omega), List.getElem?_eq_getElem _⟩
  rw [hpe]
  simp only [getL_of_here hlcur]
  refine ⟨_, _, _, rfl, hline4, ?_, ?_, ?_⟩
  · show (List.set t'.lines 0 _).length = _
    rw [List.length_set]; exact hlen4
  · show (BState.pushFull _ "list_item_close" "li" (-1) none none "" (String.singleton mc) "").level = 1
    rw [pushFull_level_close]
    show t'.level - 1 = 1
    rw [hlev4]; rfl
  · rw [closeState_tokens]
    obtain ⟨ts4, a4, b4⟩ := hsr4.tokens
    rw [List.nil_append] at a4
    subst a4
    rw [b4, pushFull_tokens]
    simp only [List.append_assoc, List.cons_append, List.nil_append]
    rw [modify_append_len]
    simp only [pushedTok, Tok.setMap, itemOpenTok, itemCloseTok, hslev, hline4, hlev4, shift2_zero]
    simp

theorem list_rule_law (codeOn : Bool) (terms' inner inner' : List BRule) (mn : Int)
    (hin : ShSims 2 0 (marker.length + k) inner inner' ∨ inner = [])
    (tD : BState) (hD : blockTokenize inner mn (stD (l0 :: rest)) 0 (rest.length + 1) = .ok tD) (hline : tD.line = rest.length + 1)
    (hfr : (stD (l0 :: rest)).FrameEq tD) :
    ∃ sF, ruleList codeOn terms' inner' (mn + 2) (stD (listify marker k l0 rest)) 0 (rest.length + 1) false = .ok (true, sF)
      ∧ sF.line = rest.length + 1 ∧ sF.lines.length = rest.length + 2
      ∧ HidEq sF.tokens (listOpenTok0 ordered mc (digitsVal (List.take (marker.length - 1) (marker ++ List.replicate k ' ' ++ l0))) (rest.length + 1)
          :: itemOpenTok mc (if ordered = true then String.ofList (List.take (marker.length - 1) (marker ++ List.replicate k ' ' ++ l0)) else "") (rest.length + 1)
          :: tD.tokens.map (Tok.shift 2) ++ [itemCloseTok mc 2, listCloseTok ordered mc 1]) := by
  have hS0 := listify_first marker k l0 rest
  obtain ⟨hlead, hso, hsb, hmc⟩ := hmk.facts k hk1 l0
  obtain ⟨hbody, hsc, _⟩ := lineRec_lead0 hlead
  have hcode := stD_notCode codeOn (listify marker k l0 rest) hsc
  have hli : (decide ((stD (listify marker k l0 rest)).listIndent ≥ 0) && decide ((lineRec (marker ++ List.replicate k ' ' ++ l0)).sCount - (stD (listify marker k l0 rest)).listIndent ≥ 4)
      && decide ((lineRec (marker ++ List.replicate k ' ' ++ l0)).sCount < (stD (listify marker k l0 rest)).blkIndent)) = false := rfl
  obtain ⟨_, _, _, _, hflev, hfline⟩ := C01.listOpenState_frame (stD (listify marker k l0 rest)) ordered mc
    (digitsVal (List.take (marker.length - 1) (marker ++ List.replicate k ' ' ++ l0))) 0
  obtain ⟨s6, nt, pe, hitem, h6line, h6len, h6lev, h6tok⟩ := list_item_law hcl hl0 hc0 hmk hk1 hk4 inner inner' mn
    _ (listOpenState_layout ..) hfline hflev hin tD hD hline hfr
  have hrule : ruleList codeOn terms' inner' (mn + 2) (stD (listify marker k l0 rest)) 0 (rest.length + 1) false
      = listRun codeOn ordered mc marker.length (digitsVal (List.take (marker.length - 1) (marker ++ List.replicate k ' ' ++ l0))) terms' inner' (mn + 2)
      (stD (listify marker k l0 rest)) 0 (rest.length + 1) := by
    rw [ruleList_eq]
    simp only [getL_of_here hS0, hcode, hli, Bool.false_eq_true, ↓reduceIte, hso]
    cases ordered with
    | true =>
      simp only [↓reduceIte, listTail, Bool.false_and, Bool.and_false, Bool.false_eq_true, hbody, hmc]
    | false =>
      simp only [Bool.false_eq_true, ↓reduceIte, hsb rfl, listTail, Bool.false_and, Bool.and_false, hbody, hmc]
  rw [hrule, listRun_eq, listItems_last _ _ _ _ _ _ _ _ _ s6 nt pe (Nat.succ_pos _) hitem (Nat.le_of_eq h6line.symm)]
  generalize hst : ({ s := s6, startLine := s6.line, markerLen := marker.length, tight := (if (!nt || false) = true then false else true), prevEmptyEnd := pe } : ListSt) = st
  have hsts : st.s = s6 := by rw [← hst]
  have hstl : st.startLine = rest.length + 1 := by rw [← hst]; exact h6line
  refine ⟨_, rfl, ?_, ?_, ?_⟩
  · exact (listFinish_line ..).1.trans hstl
  · rw [(listFinish_line ..).2, hsts]; exact h6len
  · have h := listFinish_hidEq (stD (listify marker k l0 rest)) ordered mc 0 st _
      (itemOpenTok mc (if ordered = true then String.ofList (List.take (marker.length - 1) (marker ++ List.replicate k ' ' ++ l0)) else "") (rest.length + 1)
        :: tD.tokens.map (Tok.shift 2) ++ [itemCloseTok mc 2]) rfl (by rw [hsts, h6tok, listOpenState_tokens]; rfl)
    rw [hstl, hsts, h6lev, listOpenTok0_eq _ rfl] at h
    simpa only [List.cons_append, List.append_assoc, List.nil_append] using h

end law

end MdIt.C06e
