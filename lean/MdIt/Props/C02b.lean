import MdIt.Props.C02
import MdIt.Props.C01b
/-!
# C02 (continued) — block streams are well nested and levelled

Engine theorem under the segment contract (K5: a match appends a segment satisfying `S` at the entry state, a miss appends
nothing): whatever the chain, the tokens a block loop adds are a concatenation of such segments, all at the loop's own level (the
frame keeps `level`).  The segments of the modelled leaf rules are `WellSeg`, so the stream of the modelled parse is levelled from
0, balanced, and `SyntaxTreeNode(tokens)` builds.
-/
namespace MdIt.C02
open MdIt.C01

/-- `S` reads only the frame fields of the state -/
def FrameClosedS (S : BState → List Tok → Prop) : Prop :=
  ∀ s s' seg, s.FrameEq s' → S s seg → S s' seg

theorem frameEq_symm {a b : BState} (h : a.FrameEq b) : b.FrameEq a := ⟨⟨h.lines.symm, h.listIndent.symm⟩, h.lineMax.symm, h.blkIndent.symm, h.level.symm⟩

/-- the segment contract of a rule (K5) -/
structure SegOK (P : BState → Nat → Prop) (S : BState → List Tok → Prop) (r : BRule) : Prop where
  hit : ∀ s line endLine s', CallCtx P s line endLine → r s line endLine false = .ok (true, s') →
    ∃ seg, s'.tokens = s.tokens ++ seg ∧ S s seg
  miss : ∀ s line endLine s', CallCtx P s line endLine → r s line endLine false = .ok (false, s') → s'.tokens = s.tokens

theorem SegOK.mono {P S S' r} (h : SegOK P S r) (hS : ∀ s seg, S s seg → S' s seg) : SegOK P S' r :=
  ⟨fun s line endLine s' hc hr => (h.hit s line endLine s' hc hr).imp fun seg ⟨h1, h2⟩ => ⟨h1, hS s seg h2⟩, h.miss⟩

/-- **C02.loop_segs** — the tokens a block loop adds are a concatenation of rule segments, each satisfying
the segment contract at the loop's level -/
theorem loop_segs (P : BState → Nat → Prop) (hP : FrameClosed P) (S : BState → List Tok → Prop) (hS : FrameClosedS S) (rules : List BRule)
    (hok : ∀ r ∈ rules, RuleOK P r) (hseg : ∀ r ∈ rules, SegOK P S r) (maxNesting : Int) (endLine : Nat) :
    ∀ (fuel line : Nat) (hasEmpty : Bool) (s s' : BState), s.lineMax + 1 ≤ s.lines.length → endLine ≤ s.lineMax →
      P s endLine → blockLoop rules maxNesting endLine fuel line hasEmpty s = .ok s' →
      ∃ segs : List (List Tok), s'.tokens = s.tokens ++ segs.flatten ∧ ∀ g ∈ segs, S s g := by
  intro fuel line he s s' hlen hend hPs h
  refine (C01.loop_induct P hP rules hok maxNesting endLine
    (M := fun _ s s' => ∃ segs : List (List Tok), s'.tokens = s.tokens ++ segs.flatten ∧ ∀ g ∈ segs, S s g)
    ?done ?leave ?cut ?step fuel line he s s' hlen hend hPs h).1
  case done => exact fun _ _ _ => ⟨[], (List.append_nil _).symm, nofun⟩
  case leave => exact fun _ _ _ _ _ _ => ⟨[], (List.append_nil _).symm, nofun⟩
  case cut => exact fun _ _ _ _ => ⟨[], (List.append_nil _).symm, nofun⟩
  case step =>
    -- the segment of the block dispatched at `l1`, then those of the rest of the run; `S` reads only the frame
    intro line l1 l' s s2 s' b _ hctx hc hfr _ _ _ _ ⟨segs', hn1, hn2⟩
    obtain ⟨r, hr, s0, hc0, hf0, ht0, hr0⟩ := C01.chain_hit P hP rules hok (fun r hr => (hseg r hr).miss) _ _ _ _ hctx hc
    obtain ⟨seg, hseg, hsegS⟩ := (hseg r hr).hit _ _ _ _ hc0 hr0
    dsimp only at hn1 ht0 hf0
    have hfr' : s.FrameEq { s2 with tight := b, line := l' } := hfr
    refine ⟨seg :: segs', by rw [hn1, hseg, ht0, List.flatten_cons, List.append_assoc], ?_⟩
    intro g hg
    rcases List.mem_cons.1 hg with rfl | hg
    · exact hS _ _ _ (frameEq_symm hf0) hsegS
    · exact hS _ _ _ (frameEq_symm hfr') (hn2 g hg)

/-- the segment predicate "every token of the segment has `Q`", `Q` read against the line tables of the state the rule was called in -/
def Toks (Q : List BLine → Tok → Prop) : BState → List Tok → Prop := fun s seg => ∀ t ∈ seg, Q s.lines t

theorem toks_closed (Q : List BLine → Tok → Prop) : FrameClosedS (Toks Q) := fun _ _ _ hf h t ht => hf.lines ▸ h t ht

theorem toks_flatten {Q : List BLine → Tok → Prop} {s : BState} {ts : List Tok} {segs : List (List Tok)} (hts : ts = segs.flatten)
    (h : ∀ g ∈ segs, Toks Q s g) : ∀ t ∈ ts, Q s.lines t := fun t ht => by
  rw [hts, List.mem_flatten] at ht
  obtain ⟨g, hg, htg⟩ := ht
  exact h g hg t htg

/-- balanced on its own, levelled from the entry level, and back at the entry level afterwards -/
def WellSeg (lvl : Int) (seg : List Tok) : Prop :=
  levelsOK lvl seg ∧ depthAfter lvl seg = lvl ∧ balancedFrom 0 seg = true

theorem WellSeg.congr {lvl : Int} {a b : List Tok} (h : SameNL a b) (hb : WellSeg lvl b) : WellSeg lvl a :=
  ⟨(levelsOK_congr a b lvl h).2 hb.1, (depthAfter_congr a b lvl h).trans hb.2.1, (balancedFrom_congr a b 0 h).trans hb.2.2⟩

def WellSegS : BState → List Tok → Prop := fun s seg => WellSeg s.level seg

theorem wellSegS_closed : FrameClosedS WellSegS := fun s s' seg hf h => by
  unfold WellSegS at *; rw [hf.level]; exact h

theorem wellSegs_flatten (lvl : Int) (segs : List (List Tok)) (h : ∀ g ∈ segs, WellSeg lvl g) :
    WellSeg lvl segs.flatten := by
  induction segs with
  | nil => exact ⟨trivial, rfl, rfl⟩
  | cons g gs ih =>
    have hg := h g (by simp)
    have hr := ih (fun x hx => h x (by simp [hx]))
    simp only [List.flatten_cons]
    refine ⟨?_, ?_, ?_⟩
    · rw [levelsOK_append, hg.2.1]; exact ⟨hg.1, hr.1⟩
    · rw [depthAfter_append, hg.2.1]; exact hr.2.1
    · have := balancedFrom_append g gs.flatten 0 0 hg.2.2 (Int.le_refl 0)
      simp only [Int.add_zero] at this
      rw [this]; exact hr.2.2

theorem wellformed_of_segs {s : BState} {ts : List Tok} {segs : List (List Tok)} (h0 : s.level = 0) (hts : ts = segs.flatten)
    (hS : ∀ g ∈ segs, WellSegS s g) :
    levelsOK 0 ts ∧ depthAfter 0 ts = 0 ∧ balancedFrom 0 ts = true ∧ ∃ f, buildTree ts = .ok f := by
  have key : WellSeg 0 ts := by rw [hts]; exact wellSegs_flatten 0 segs fun g hg => h0 ▸ hS g hg
  exact ⟨key.1, key.2.1, key.2.2, tree_of_balanced ts key.2.2⟩

/-- `hD` may use that `n` lies inside the line tables, which `getLines` needs -/
theorem segOK_of_leaf {P pts D r} {S : BState → List Tok → Prop} (h : BlockLeaf P pts D r)
    (hD : ∀ s line endLine n seg, n < s.lines.length → D s line endLine n seg → S s seg) : SegOK P S r := by
  refine ⟨?_, fun _ _ _ _ hc hr => h.miss hc hr⟩
  intro s line endLine s' hc hr
  obtain ⟨n, seg, rfl, _, h2, h3⟩ := h.hit hc hr
  exact ⟨seg, rfl, hD s line endLine n seg (by have := hc.len; omega) h3⟩

theorem wellSeg_leaf (s : BState) (a b : String) (m c d e f) :
    WellSeg s.level [pushedTok s a b 0 m c d e f] := by
  refine ⟨?_, ?_, ?_⟩
  · simp [levelsOK, pushedTok, Tok.level, Tok.nesting]
  · simp [depthAfter, pushedTok, Tok.nesting]
  · simp [balancedFrom, pushedTok, Tok.nesting]

theorem wellSeg_three (s0 : BState) (a1 b1 : String) (m1 c1 d1 e1 f1) (a2 b2 : String) (m2 c2 d2 e2 f2)
    (a3 b3 : String) (m3 c3 d3 e3 f3) :
    WellSeg s0.level [pushedTok s0 a1 b1 1 m1 c1 d1 e1 f1,
      pushedTok (s0.pushFull a1 b1 1 m1 c1 d1 e1 f1) a2 b2 0 m2 c2 d2 e2 f2,
      pushedTok ((s0.pushFull a1 b1 1 m1 c1 d1 e1 f1).pushFull a2 b2 0 m2 c2 d2 e2 f2) a3 b3 (-1) m3 c3 d3 e3 f3] := by
  refine ⟨?_, ?_, ?_⟩
  · simp [levelsOK, pushedTok, Tok.level, Tok.nesting, BState.pushFull]
  · simp [depthAfter, pushedTok, Tok.nesting]
  · simp [balancedFrom, pushedTok, Tok.nesting]

theorem three_push' {s0 : BState} {a1 b1 : String} {m1 c1 d1 e1 f1} {a2 b2 : String} {m2 c2 d2 e2 f2}
    {a3 b3 : String} {m3 c3 d3 e3 f3} :
    ∃ seg, (((s0.pushFull a1 b1 1 m1 c1 d1 e1 f1).pushFull a2 b2 0 m2 c2 d2 e2 f2).pushFull a3 b3 (-1) m3 c3 d3 e3 f3).tokens
        = s0.tokens ++ seg ∧ WellSeg s0.level seg :=
  ⟨_, by rw [pushFull_tokens, pushFull_tokens, pushFull_tokens, List.append_assoc, List.append_assoc]; rfl,
   wellSeg_three s0 a1 b1 m1 c1 d1 e1 f1 a2 b2 m2 c2 d2 e2 f2 a3 b3 m3 c3 d3 e3 f3⟩

theorem wellSeg_triple (s : BState) (tyOpen tyClose tag mk : String) (m1 m2 : Nat × Nat) (content : String) :
    WellSeg s.level (tripleToks s tyOpen tyClose tag mk m1 m2 content) :=
  wellSeg_three s ..

theorem segOK_hr (P) (codeOn : Bool) : SegOK P WellSegS (ruleHr codeOn) :=
  C02.segOK_of_leaf (hr_shape P codeOn) fun s _ _ _ _ _ ⟨_, _, _, _, _, _, hseg⟩ => hseg ▸ wellSeg_leaf s ..

theorem segOK_code (P) (codeOn : Bool) : SegOK P WellSegS (ruleCode codeOn) :=
  C02.segOK_of_leaf (code_shape P codeOn) fun s _ _ _ _ _ ⟨_, _, _, hseg⟩ => hseg ▸ wellSeg_leaf s ..

theorem segOK_fence (P) (codeOn : Bool) : SegOK P WellSegS (ruleFence codeOn) :=
  C02.segOK_of_leaf (fence_shape P codeOn) fun s _ _ _ _ _ ⟨_, _, _, _, hseg, _⟩ => hseg ▸ wellSeg_leaf s ..

theorem segOK_heading (P) (codeOn : Bool) (ws : List Nat) : SegOK P WellSegS (ruleHeading codeOn ws) :=
  C02.segOK_of_leaf (heading_shape P codeOn ws) fun s _ _ _ _ _ ⟨_, _, _, _, hseg⟩ => hseg ▸ wellSeg_triple s ..

theorem segOK_paragraphE (P : BState → Nat → Prop) (terms : List BRule) (hin : ∀ t ∈ terms, SilentInertE t) (ws : List Nat) :
    SegOK P WellSegS (ruleParagraph terms ws) :=
  C02.segOK_of_leaf (paragraph_shapeE P terms hin ws) fun s _ _ _ _ _ ⟨_, hseg⟩ => hseg ▸ wellSeg_triple s ..

theorem segOK_paragraph (P : BState → Nat → Prop) (terms : List BRule) (hin : ∀ t ∈ terms, SilentInert t) (ws : List Nat) :
    SegOK P WellSegS (ruleParagraph terms ws) :=
  segOK_paragraphE P terms (inertE_of_inert hin) ws

theorem wellSeg_leaves (P : BState → Nat → Prop) (c : MiniCfg) {pt : List BRule} (hpt : ∀ t ∈ pt, SilentInertE t) (ws : List Nat) :
    ∀ r ∈ leaves c pt ws, SegOK P WellSegS r :=
  forall_leaves (fun _ => segOK_code _ _) (fun _ => segOK_fence _ _) (fun _ => segOK_hr _ _) (fun _ => segOK_heading _ _ _)
    (segOK_paragraphE _ _ hpt ws)

theorem miniChain_segOK (c : MiniCfg) (ws : List Nat) : ∀ r ∈ miniChain c ws, SegOK TopCtx WellSegS r :=
  wellSeg_leaves _ c (inertE_of_inert (miniTerminators_inert c ws)) ws

theorem miniParse_segs (S : BState → List Tok → Prop) (hS : FrameClosedS S) (c : MiniCfg) (ws : List Nat) (mn : Int)
    (hseg : ∀ r ∈ miniChain c ws, SegOK TopCtx S r) (src : List Char) (ts : List Tok) (h : miniParse c ws mn src = .ok ts) :
    ∃ segs : List (List Tok), ts = segs.flatten ∧ ∀ g ∈ segs, S (initBState (normalize src)) g :=
  parseWith_ind (fun ts => ∃ segs : List (List Tok), ts = segs.flatten ∧ ∀ g ∈ segs, S (initBState (normalize src)) g) h
    ⟨[], rfl, by simp⟩ fun s' hs' =>
    loop_segs TopCtx topCtx_closed S hS (miniChain c ws) (miniChain_ok c ws) hseg mn (initBState (normalize src)).lineMax _ 0 false
      (initBState (normalize src)) s' (initBState_len _) (Nat.le_refl _) rfl hs'

/-- **C02.mini_wellformed** — for every source, every subset of the optional rules and every `maxNesting`, the
block stream of the modelled parse is levelled from 0, ends at depth 0, is balanced, and builds a syntax tree -/
theorem mini_wellformed (c : MiniCfg) (ws : List Nat) (maxNesting : Int) (src : List Char) (ts : List Tok)
    (h : miniParse c ws maxNesting src = .ok ts) :
    levelsOK 0 ts ∧ depthAfter 0 ts = 0 ∧ balancedFrom 0 ts = true ∧ ∃ f, buildTree ts = .ok f := by
  obtain ⟨segs, hts, hS⟩ := miniParse_segs WellSegS wellSegS_closed c ws maxNesting (miniChain_segOK c ws) src ts h
  exact wellformed_of_segs rfl hts hS

end MdIt.C02
