import MdIt.Core
import MdIt.Props.C01
import MdIt.Proofs.BlockRules
import MdIt.Proofs.BlockQuote
/-!
# C06 (continued) — two runs of the block chains in lockstep, and the level-shift relation `SR`

The shared layer of the three simulations (C06 quote law, C07 concatenation law, C06 list law).  The leaf rules, the scans,
`paragraph`, the loop and the quote rule are compared once, as forward simulations (`Fwd`), for any relation that keeps two runs
in lockstep (`Lockstep V n tt R`): what the first run reads at line `i` the second reads at line `i + n` (`Reads`), related as the
view `V : LinesRel` says — equal up to `bsCount` here and in `Props/C07b.lean` (line shift), `W` columns further in in
`Props/C06e.lean` (line and column shift).  Each proof walks down the definition once, both runs taking the same branch at every
test (`Fwd.ite`).

The first instance is here, `SR k pre` (level shift).  On tab-free line tables no rule reads `bsCount`, the nesting guard compares
`level` with `maxNesting` (shift both), and every push takes its level from the state — so every rule, the loop and the nested runs
preserve `SR` (`Sim`, `qChain_sims`).
-/
namespace MdIt.C06
open MdIt.C01

/-- the entry with `bsCount` zeroed: two entries with the same `zb` differ in `bsCount` only -/
def zb (l : BLine) : BLine := { l with bs := 0 }

/-- line tables that agree entry by entry up to `bsCount` -/
def LR (ls ls' : List BLine) : Prop := ls.map zb = ls'.map zb

/-- on such a table no rule reads `bsCount`, which only enters the expansion of tabs -/
def NoTab (ls : List BLine) : Prop := ∀ l ∈ ls, '\t' ∉ l.text

/-- the token `k` levels deeper -/
def _root_.MdIt.Tok.shift (k : Int) : Tok → Tok
  | .mk ty tag n a m lvl ch c mku info md b h => .mk ty tag n a m (lvl + k) ch c mku info md b h

/-- two runs over the same lines, the second `k` levels deeper, as inside `k` containers whose tokens so far are `pre`: the states
agree up to `bsCount`, `level` and the tokens (`parentType`, `refs`, `dups` are not compared) -/
structure SR (k : Int) (pre : List Tok) (s s' : BState) : Prop where
  lines : LR s.lines s'.lines
  notab : NoTab s.lines
  line : s'.line = s.line
  lineMax : s'.lineMax = s.lineMax
  blkIndent : s'.blkIndent = s.blkIndent
  level : s'.level = s.level + k
  tight : s'.tight = s.tight
  listIndent : s'.listIndent = s.listIndent
  tokens : s'.tokens = pre ++ s.tokens.map (Tok.shift k)

theorem LR.length {ls ls' : List BLine} (h : LR ls ls') : ls'.length = ls.length := by
  have := congrArg List.length h; simpa using this.symm

theorem LR.get {ls ls' : List BLine} (h : LR ls ls') (i : Nat) (l : BLine) (hl : ls[i]? = some l) :
    ∃ l', ls'[i]? = some l' ∧ zb l' = zb l := by
  have h1 : (ls.map zb)[i]? = some (zb l) := by simp [hl]
  rw [h] at h1
  simp only [List.getElem?_map, Option.map_eq_some_iff] at h1
  obtain ⟨l', h2, h3⟩ := h1
  exact ⟨l', h2, h3⟩

theorem zb_eq {l l' : BLine} (h : zb l' = zb l) :
    l'.sCount = l.sCount ∧ l'.text = l.text ∧ l'.tShift = l.tShift ∧ l'.hasLF = l.hasLF := by
  cases l; cases l'; simp only [zb, BLine.mk.injEq] at h; exact ⟨h.1, h.2.1, h.2.2.1, h.2.2.2.2⟩

theorem zb_body {l l' : BLine} (h : zb l' = zb l) : l'.body = l.body := by
  obtain ⟨_, h2, h3, _⟩ := zb_eq h; simp [BLine.body, h2, h3]

theorem zb_empty {l l' : BLine} (h : zb l' = zb l) : l'.empty = l.empty := by
  obtain ⟨_, h2, h3, _⟩ := zb_eq h; simp [BLine.empty, h2, h3]

def Fwd {α β} (Q : α → β → Prop) (a : Except PyErr α) (b : Except PyErr β) : Prop :=
  ∀ x, a = .ok x → ∃ y, b = .ok y ∧ Q x y

theorem Fwd.ok {α β} {Q : α → β → Prop} {x y} (h : Q x y) : Fwd Q (.ok x) (.ok y) := by
  intro z hz; cases hz; exact ⟨y, rfl, h⟩

theorem Fwd.error {α β} {Q : α → β → Prop} {e b} : Fwd Q (.error e) b := by
  intro z hz; cases hz

theorem Fwd.ite {α β} {Q : α → β → Prop} {c c' : Prop} [Decidable c] [Decidable c'] {a b a' b'} (hc : c' ↔ c)
    (h1 : c → Fwd Q a a') (h2 : ¬ c → Fwd Q b b') : Fwd Q (if c then a else b) (if c' then a' else b') := by
  by_cases h : c
  · rw [if_pos h, if_pos (hc.2 h)]; exact h1 h
  · rw [if_neg h, if_neg (fun h' => h (hc.1 h'))]; exact h2 h

abbrev RuleFwd (R : BState → BState → Prop) : Except PyErr (Bool × BState) → Except PyErr (Bool × BState) → Prop :=
  Fwd (fun x y => y.1 = x.1 ∧ R x.2 y.2)

theorem Fwd.same {R : BState → BState → Prop} {m : Bool} {s s'} (h : R s s') : RuleFwd R (.ok (m, s)) (.ok (m, s')) :=
  Fwd.ok ⟨rfl, h⟩

theorem Fwd.toRule {R : BState → BState → Prop} {a b m t} (h : RuleFwd R a b) (ha : a = .ok (m, t)) :
    ∃ t', b = .ok (m, t') ∧ R t t' := by
  obtain ⟨⟨m', t'⟩, hb, hm, hr⟩ := h _ ha
  cases hm; exact ⟨t', hb, hr⟩

theorem Fwd.ofRule {R : BState → BState → Prop} {a b} (h : ∀ m t, a = .ok (m, t) → ∃ t', b = .ok (m, t') ∧ R t t') :
    RuleFwd R a b := by
  intro ⟨m, t⟩ ha
  obtain ⟨t', hb, hr⟩ := h m t ha
  exact ⟨(m, t'), hb, rfl, hr⟩

/-- How the lines of the two runs are related: `L` for the lines in `Rng` (those the rules parse), `Lw` for every line, the second
`W` columns further in.  Without a column shift (`zbView`) `Rng` is everything, `L = Lw` and `W = 0`; the split serves
`Props/C06e.lean`, where the sentinel line is the same blank entry in both runs. -/
structure LinesRel where
  W : Nat
  /-- the line numbers at which a rule may be called -/
  Rng : Nat → Prop
  L : BLine → BLine → Prop
  /-- what `getLines`, `skipEmptyLines` and `isEmpty` need, which also read the sentinel line -/
  Lw : BLine → BLine → Prop
  body : ∀ {l l'}, L l l' → l'.body = l.body
  sc : ∀ {l l'}, L l l' → l'.sCount = l.sCount + W
  tsh : ∀ {l l'}, L l l' → l'.tShift = l.tShift + W
  notab : ∀ {l l'}, L l l' → '\t' ∉ l.text
  /-- `paragraph` tests `sCount < 0`, which a shift would change for a negative `sCount` -/
  nn : ∀ {l l'}, L l l' → W = 0 ∨ 0 ≤ l.sCount
  wk : ∀ {l l'}, L l l' → Lw l l'
  empty : ∀ {l l'}, Lw l l' → l'.empty = l.empty
  lf : ∀ {l l'}, Lw l l' → l'.hasLF = l.hasLF
  /-- the cut `getLinesGo` makes of a line; `x` is the line feed it appends or not -/
  cut : ∀ {l l'} (x : List Char) (indent : Int), Lw l l' → x = [] ∨ x = ['\n'] → W = 0 ∨ 0 ≤ indent →
    cutLineI (l'.text ++ x) l'.tShift l'.bs (indent + W) = cutLineI (l.text ++ x) l.tShift l.bs indent

structure Reads (V : LinesRel) (n : Nat) (s s' : BState) : Prop where
  get : ∀ i l, s.lines[i]? = some l → ∃ l', s'.lines[i + n]? = some l' ∧ V.Lw l l' ∧ (V.Rng i → V.L l l')
  get_none : ∀ i, s.lines[i]? = none → s'.lines[i + n]? = none
  lineMax : s'.lineMax = s.lineMax + n
  blkIndent : s'.blkIndent = s.blkIndent + V.W
  blk_nn : V.W = 0 ∨ 0 ≤ s.blkIndent

theorem Reads.getL {V n s s'} (h : Reads V n s s') {i : Nat} {l : BLine} (hi : V.Rng i) (hg : getL s i = .ok l) :
    ∃ l', getL s' (i + n) = .ok l' ∧ V.L l l' := by
  obtain ⟨l', h1, _, h2⟩ := h.get i l (here_of_getL hg)
  exact ⟨l', getL_of_here h1, h2 hi⟩

theorem Reads.isCode {V n s s'} (h : Reads V n s s') (codeOn : Bool) {l l' : BLine} (hz : V.L l l') :
    isCodeLine codeOn s' l' = isCodeLine codeOn s l := by
  simp only [isCodeLine, h.blkIndent, V.sc hz]
  congr 1; apply decide_eq_decide.2; omega

theorem Reads.lt_blk {V n s s'} (h : Reads V n s s') {l l' : BLine} (hz : V.L l l') :
    (l'.sCount < s'.blkIndent) = (l.sCount < s.blkIndent) := by
  rw [V.sc hz, h.blkIndent]; exact propext (by omega)

theorem cutGo_shift (tShift bs bs' indent W : Nat) : ∀ (chars : List Char) (i li : Nat), '\t' ∉ chars →
    cutGo (tShift + W) bs' (indent + W) chars (i + W) (li + W) =
      ((cutGo tShift bs indent chars i li).1, (cutGo tShift bs indent chars i li).2 + W) := by
  intro chars
  induction chars with
  | nil => intro i li _; rfl
  | cons c cs ih =>
    intro i li hnt
    have hc : c ≠ '\t' := fun e => hnt (by simp [e])
    have hcs : '\t' ∉ cs := fun e => hnt (by simp [e])
    simp only [cutGo, hc, if_false, Nat.add_lt_add_iff_right, Nat.add_right_comm _ W 1]
    split
    · split
      · exact ih _ _ hcs
      · split
        · exact ih _ _ hcs
        · rfl
    · rfl

theorem cutGo_notab (tShift bs bs' indent : Nat) (chars : List Char) (i li : Nat) (h : '\t' ∉ chars) :
    cutGo tShift bs indent chars i li = cutGo tShift bs' indent chars i li :=
  cutGo_shift tShift bs' bs indent 0 chars i li h

theorem cutLineI_notab (chars : List Char) (tShift bs bs' : Nat) (indent : Int) (h : '\t' ∉ chars) :
    cutLineI chars tShift bs indent = cutLineI chars tShift bs' indent := by
  simp only [cutLineI, cutLine, cutGo_notab tShift bs bs' indent.toNat chars 0 0 h]

theorem getLinesGo_reads {V n s s'} (h : Reads V n s s') (end_ : Nat) (indent : Int) (hi : V.W = 0 ∨ 0 ≤ indent) (keep : Bool) :
    ∀ (m line : Nat) (acc : List Char), Fwd Eq (getLinesGo s end_ indent keep m line acc)
      (getLinesGo s' (end_ + n) (indent + V.W) keep m (line + n) acc) := by
  intro m
  induction m with
  | zero => intro line acc; exact Fwd.ok rfl
  | succ m ih =>
    intro line acc
    unfold getLinesGo
    rw [show line + n + 1 = line + 1 + n by omega]
    cases hg : getL s line with
    | error e => exact Fwd.error
    | ok l =>
      obtain ⟨l', h1, hz, _⟩ := h.get line l (here_of_getL hg)
      have c1 : decide (line + 1 + n < end_ + n) = decide (line + 1 < end_) := decide_eq_decide.2 (by omega)
      simp only [getL_of_here h1, V.lf hz, c1]
      rw [V.cut _ indent hz (by split <;> simp) hi]
      exact ih _ _

theorem getLinesB_reads {V n s s'} (h : Reads V n s s') (b e : Nat) (indent : Int) (hi : V.W = 0 ∨ 0 ≤ indent) (keep : Bool) :
    Fwd Eq (getLinesB s b e indent keep) (getLinesB s' (b + n) (e + n) (indent + V.W) keep) := by
  unfold getLinesB
  rw [Nat.add_sub_add_right]
  exact getLinesGo_reads h e indent hi keep _ _ _

theorem codeScan_reads {V n s s'} (h : Reads V n s s') (codeOn : Bool) (endLine : Nat) (hr : ∀ i, i < endLine → V.Rng i) :
    ∀ (fuel next last : Nat), Fwd (fun r r' => r' = r + n) (codeScan codeOn s endLine fuel next last)
      (codeScan codeOn s' (endLine + n) fuel (next + n) (last + n)) := by
  intro fuel
  induction fuel with
  | zero => intro next last; exact Fwd.error
  | succ f ih =>
    intro next last
    unfold codeScan
    rw [show next + n + 1 = next + 1 + n by omega]
    refine Fwd.ite (by omega) (fun hlt => ?_) (fun _ => Fwd.ok rfl)
    cases hg : getL s next with
    | error e => exact Fwd.error
    | ok l =>
      obtain ⟨l', hg', hz⟩ := h.getL (hr _ hlt) hg
      simp only [hg', V.empty (V.wk hz), h.isCode codeOn hz]
      refine Fwd.ite Iff.rfl (fun _ => ih _ _) (fun _ => ?_)
      exact Fwd.ite Iff.rfl (fun _ => ih _ _) (fun _ => Fwd.ok rfl)

theorem fenceScan_reads {V n s s'} (h : Reads V n s s') (codeOn : Bool) (endLine : Nat) (hr : ∀ i, i < endLine → V.Rng i) (marker : Char) (len : Nat) :
    ∀ (fuel prev : Nat), Fwd (fun r r' => r' = (r.1 + n, r.2)) (fenceScan codeOn s endLine marker len fuel prev)
      (fenceScan codeOn s' (endLine + n) marker len fuel (prev + n)) := by
  intro fuel
  induction fuel with
  | zero => intro prev; exact Fwd.error
  | succ f ih =>
    intro prev
    rw [fenceScan, fenceScan, show prev + n + 1 = prev + 1 + n by omega]
    refine Fwd.ite (by omega) (fun _ => Fwd.ok rfl) (fun hlt => ?_)
    cases hg : getL s (prev + 1) with
    | error e => exact Fwd.error
    | ok l =>
      obtain ⟨l', hg', hz⟩ := h.getL (hr _ (by omega)) hg
      simp only [hg', V.empty (V.wk hz), V.body hz, V.lf (V.wk hz), h.lt_blk hz, h.isCode codeOn hz]
      refine Fwd.ite Iff.rfl (fun _ => Fwd.ok rfl) (fun _ => ?_)
      cases l.body with
      | nil => exact Fwd.ite Iff.rfl (fun _ => ih _) (fun _ => Fwd.ok rfl)
      | cons c rest =>
        refine Fwd.ite Iff.rfl (fun _ => ih _) (fun _ => ?_)
        refine Fwd.ite Iff.rfl (fun _ => ih _) (fun _ => ?_)
        refine Fwd.ite Iff.rfl (fun _ => ih _) (fun _ => ?_)
        exact Fwd.ite Iff.rfl (fun _ => Fwd.ok rfl) (fun _ => ih _)

theorem skipEmptyLines_reads {V n s s'} (h : Reads V n s s') : ∀ (fuel from_ : Nat),
    skipEmptyLines s' fuel (from_ + n) = skipEmptyLines s fuel from_ + n := by
  intro fuel
  induction fuel with
  | zero => intro f; rfl
  | succ m ih =>
    intro f
    have c0 : (f + n < s.lineMax + n) = (f < s.lineMax) := propext ⟨fun h => by omega, fun h => by omega⟩
    simp only [skipEmptyLines, h.lineMax, c0, show f + n + 1 = f + 1 + n by omega]
    split
    · cases hq : s.lines[f]? with
      | none => simp only [h.get_none f hq]; exact ih _
      | some l =>
        obtain ⟨l', h1, h2, _⟩ := h.get f l hq
        simp only [h1, V.empty h2]
        split
        · exact ih _
        · rfl
    · rfl

theorem isEmpty_reads {V n s s'} (h : Reads V n s s') (i : Nat) : s'.isEmpty ((i + n : Nat) : Int) = s.isEmpty (i : Int) := by
  unfold BState.isEmpty idx
  have h1 : ¬ (((i + n : Nat) : Int) < 0) := by omega
  have h2 : ¬ ((i : Int) < 0) := by omega
  simp only [h1, h2, if_false, Int.toNat_natCast]
  cases hq : s.lines[i]? with
  | none => simp only [h.get_none i hq]
  | some l =>
    obtain ⟨l', a1, a2, _⟩ := h.get i l hq
    simp only [a1, V.empty a2]

theorem Reads.isEmptyI {V n s s'} (h : Reads V n s s') (i : Nat) {j j' : Int} (hj : j = (i : Int)) (hj' : j' = ((i + n : Nat) : Int)) :
    s'.isEmpty j' = s.isEmpty j := by
  subst hj hj'; exact isEmpty_reads h i

/-- what the leaf rules, the scans and the loop ask of a relation `R` between the states of the two runs; `tt`: `tight` is part of
the relation -/
structure Lockstep (V : LinesRel) (n : Nat) (tt : Bool) (R : BState → BState → Prop) : Prop where
  reads : ∀ {s s'}, R s s' → Reads V n s s'
  line : ∀ {s s'}, R s s' → s'.line = s.line + n
  setLineNo : ∀ {s s'} (a : Nat), R s s' → R { s with line := a } { s' with line := a + n }
  setTight : ∀ {s s'} (b b' : Bool), (tt = true → b' = b) → R s s' → R { s with tight := b } { s' with tight := b' }
  push : ∀ {s s'} (a b : String) (ne : Int) (m m' : Option (Nat × Nat)) (c d e f), m' = m.map (fun p => (p.1 + n, p.2 + n)) →
    R s s' → R (s.pushFull a b ne m c d e f) (s'.pushFull a b ne m' c d e f)

section rules
variable {V : LinesRel} {n : Nat} {tt : Bool} {R : BState → BState → Prop} (hR : Lockstep V n tt R)
include hR

theorem hr_fwd (codeOn : Bool) {s s'} (h : R s s') (line endLine : Nat) (silent : Bool) (hl : V.Rng line) :
    RuleFwd R (ruleHr codeOn s line endLine silent) (ruleHr codeOn s' (line + n) (endLine + n) silent) := by
  unfold ruleHr
  rw [show line + n + 1 = line + 1 + n by omega]
  cases hg : getL s line with
  | error e => exact Fwd.error
  | ok l =>
    obtain ⟨l', hg', hz⟩ := (hR.reads h).getL hl hg
    simp only [hg', (hR.reads h).isCode codeOn hz, V.body hz]
    refine Fwd.ite Iff.rfl (fun _ => .same h) (fun _ => ?_)
    cases hrMarkup l.body with
    | none => exact .same h
    | some mk =>
      refine Fwd.ite Iff.rfl (fun _ => .same h) (fun _ => Fwd.ok ⟨rfl, ?_⟩)
      exact hR.push _ _ _ _ _ _ _ _ _ rfl (hR.setLineNo _ h)

theorem heading_fwd (codeOn : Bool) (ws : List Nat) {s s'} (h : R s s') (line endLine : Nat) (silent : Bool) (hl : V.Rng line) :
    RuleFwd R (ruleHeading codeOn ws s line endLine silent) (ruleHeading codeOn ws s' (line + n) (endLine + n) silent) := by
  cases hg : getL s line with
  | error e => rw [ruleHeading, hg]; exact Fwd.error
  | ok l =>
    obtain ⟨l', hg', hz⟩ := (hR.reads h).getL hl hg
    rw [ruleHeading_eq _ _ _ _ _ _ hg, ruleHeading_eq _ _ _ _ _ _ hg', (hR.reads h).isCode codeOn hz, V.body hz]
    refine Fwd.ite Iff.rfl (fun _ => .same h) (fun _ => ?_)
    cases headingOpen l.body with
    | none => exact .same h
    | some ka =>
      refine Fwd.ite Iff.rfl (fun _ => .same h) (fun _ => Fwd.ok ⟨rfl, ?_⟩)
      rw [headingPush, headingPush, show line + n + 1 = line + 1 + n by omega]
      exact hR.push _ _ _ _ _ _ _ _ _ rfl (hR.push _ _ _ _ _ _ _ _ _ rfl (hR.push _ _ _ _ _ _ _ _ _ rfl (hR.setLineNo _ h)))

theorem code_fwd (codeOn : Bool) {s s'} (h : R s s') (line endLine : Nat) (silent : Bool) (hl : V.Rng line) (hr : ∀ i, i < endLine → V.Rng i) :
    RuleFwd R (ruleCode codeOn s line endLine silent) (ruleCode codeOn s' (line + n) (endLine + n) silent) := by
  unfold ruleCode
  rw [show line + n + 1 = line + 1 + n by omega, Nat.add_sub_add_right]
  cases hg : getL s line with
  | error e => exact Fwd.error
  | ok l =>
    obtain ⟨l', hg', hz⟩ := (hR.reads h).getL hl hg
    simp only [hg', (hR.reads h).isCode codeOn hz]
    refine Fwd.ite Iff.rfl (fun _ => .same h) (fun _ => ?_)
    cases hs : codeScan codeOn s endLine (endLine - line + 1) (line + 1) (line + 1) with
    | error e => exact Fwd.error
    | ok last =>
      obtain ⟨_, hs', rfl⟩ := codeScan_reads (hR.reads h) codeOn endLine hr _ _ _ _ hs
      simp only [hs']
      cases hgl : getLinesB s line last (4 + s.blkIndent) false with
      | error e => exact Fwd.error
      | ok c =>
        obtain ⟨_, hgl', rfl⟩ := getLinesB_reads (hR.reads h) _ _ _ ((hR.reads h).blk_nn.imp_right fun h0 => by omega) _ _ hgl
        rw [Int.add_assoc, ← (hR.reads h).blkIndent] at hgl'
        simp only [hgl']
        exact Fwd.ok ⟨rfl, hR.push _ _ _ _ _ _ _ _ _ rfl (hR.setLineNo _ h)⟩

theorem fence_fwd (codeOn : Bool) {s s'} (h : R s s') (line endLine : Nat) (silent : Bool) (hl : V.Rng line) (hr : ∀ i, i < endLine → V.Rng i) :
    RuleFwd R (ruleFence codeOn s line endLine silent) (ruleFence codeOn s' (line + n) (endLine + n) silent) := by
  cases hg : getL s line with
  | error e => rw [ruleFence, hg]; exact Fwd.error
  | ok l =>
    obtain ⟨l', hg', hz⟩ := (hR.reads h).getL hl hg
    rw [ruleFence_eq _ _ _ _ _ hg, ruleFence_eq _ _ _ _ _ hg', (hR.reads h).isCode codeOn hz, V.body hz]
    refine Fwd.ite Iff.rfl (fun _ => .same h) (fun _ => ?_)
    cases fenceOpen l.body with
    | none => exact .same h
    | some v =>
      obtain ⟨marker, len, params⟩ := v
      refine Fwd.ite Iff.rfl (fun _ => .same h) (fun _ => ?_)
      unfold fenceBody
      rw [show line + n + 1 = line + 1 + n by omega, Nat.add_sub_add_right]
      cases hs : fenceScan codeOn s endLine marker len (endLine - line + 1) line with
      | error e => exact Fwd.error
      | ok r =>
        obtain ⟨next, hv⟩ := r
        obtain ⟨_, hs', rfl⟩ := fenceScan_reads (hR.reads h) codeOn endLine hr _ _ _ _ _ hs
        simp only [hs']
        cases hgl : getLinesB s (line + 1) next l.sCount true with
        | error e => exact Fwd.error
        | ok c =>
          obtain ⟨_, hgl', rfl⟩ := getLinesB_reads (hR.reads h) _ _ _ (V.nn hz) _ _ hgl
          rw [← V.sc hz] at hgl'
          simp only [hgl']
          refine Fwd.ok ⟨rfl, ?_⟩
          rw [show next + n + (if hv = true then 1 else 0) = next + (if hv = true then 1 else 0) + n by omega]
          exact hR.push _ _ _ _ _ _ _ _ _ rfl (hR.setLineNo _ h)
end rules

/-- `Call line endLine`: what the rules of the chain assume of their call site -/
def ChainFwd (Call : Nat → Nat → Prop) (n : Nat) (R : BState → BState → Prop) (silent : Bool) (rs rs' : List BRule) : Prop :=
  AllRel (fun r r' => ∀ {s s'} (line endLine : Nat), Call line endLine → R s s' →
    RuleFwd R (r s line endLine silent) (r' s' (line + n) (endLine + n) silent)) rs rs'

theorem runTerminators_fwd {Call : Nat → Nat → Prop} {n : Nat} {R : BState → BState → Prop} {ts ts' : List BRule} (h : ChainFwd Call n R true ts ts') {s s'}
    (line endLine : Nat) (hc : Call line endLine) (hs : R s s') :
    RuleFwd R (runTerminators ts s line endLine) (runTerminators ts' s' (line + n) (endLine + n)) := by
  induction h generalizing s s' with
  | nil => exact Fwd.same hs
  | @cons r r' rs rs' hr' _ ih =>
    unfold runTerminators
    cases hq : r s line endLine true with
    | error e => exact Fwd.error
    | ok v =>
      obtain ⟨m, t⟩ := v
      obtain ⟨t', hq', ht⟩ := (hr' line endLine hc hs).toRule hq
      rw [hq']
      cases m with
      | true => exact Fwd.same ht
      | false => exact ih ht

theorem runBlockChain_fwd {Call : Nat → Nat → Prop} {n : Nat} {R : BState → BState → Prop} {rs rs' : List BRule} (h : ChainFwd Call n R false rs rs') {s s'}
    (line endLine : Nat) (hc : Call line endLine) (hs : R s s') :
    RuleFwd R (runBlockChain rs s line endLine) (runBlockChain rs' s' (line + n) (endLine + n)) := by
  induction h generalizing s s' with
  | nil => exact Fwd.same hs
  | @cons r r' rs rs' hr' _ ih =>
    unfold runBlockChain
    cases hq : r s line endLine false with
    | error e => exact Fwd.error
    | ok v =>
      obtain ⟨m, t⟩ := v
      obtain ⟨t', hq', ht⟩ := (hr' line endLine hc hs).toRule hq
      rw [hq']
      cases m with
      | true => exact Fwd.same ht
      | false => exact ih ht

section rules
variable {V : LinesRel} {n : Nat} {tt : Bool} {R : BState → BState → Prop} (hR : Lockstep V n tt R)
include hR

theorem paraScan_fwd {Call : Nat → Nat → Prop} {ts ts' : List BRule} (hterm : ChainFwd Call n R true ts ts') (endLine : Nat)
    (hr : ∀ i, i < endLine → V.Rng i ∧ Call i endLine) :
    ∀ (fuel next : Nat) {s s'}, R s s' → Fwd (fun x y => y.1 = x.1 + n ∧ R x.2 y.2) (paraScan ts endLine fuel next s)
      (paraScan ts' (endLine + n) fuel (next + n) s') := by
  intro fuel
  induction fuel with
  | zero => intro next s s' _; exact Fwd.error
  | succ f ih =>
    intro next s s' h
    unfold paraScan
    rw [show next + n + 1 = next + 1 + n by omega]
    refine Fwd.ite (by omega) (fun hlt => ?_) (fun _ => Fwd.ok ⟨rfl, h⟩)
    cases hg : getL s next with
    | error e => exact Fwd.error
    | ok l =>
      obtain ⟨l', hg', hz⟩ := (hR.reads h).getL (hr _ hlt).1 hg
      have hsc := V.sc hz
      have hb := (hR.reads h).blkIndent
      have hnn := V.nn hz
      simp only [hg', V.empty (V.wk hz)]
      refine Fwd.ite Iff.rfl (fun _ => Fwd.ok ⟨rfl, h⟩) (fun _ => ?_)
      refine Fwd.ite (by omega) (fun _ => ih _ h) (fun _ => ?_)
      refine Fwd.ite (by omega) (fun _ => ih _ h) (fun _ => ?_)
      cases hq : runTerminators ts s next endLine with
      | error e => exact Fwd.error
      | ok v =>
        obtain ⟨b, t⟩ := v
        obtain ⟨t', hq', ht⟩ := (runTerminators_fwd hterm next endLine (hr _ hlt).2 h).toRule hq
        simp only [hq']
        cases b with
        | true => exact Fwd.ok ⟨rfl, ht⟩
        | false => exact ih _ ht

/-- `paragraph`: `R` relates the states while `parentType` is `"paragraph"`, `R0` before and after -/
theorem paragraph_fwd {Call : Nat → Nat → Prop} {ts ts' : List BRule} (hterm : ChainFwd Call n R true ts ts') (ws : List Nat)
    {R0 : BState → BState → Prop} {s s'} (line endLine : Nat) (silent : Bool) (hmax : s'.lineMax = s.lineMax + n)
    (hr : ∀ i, i < s.lineMax → V.Rng i ∧ Call i s.lineMax)
    (enter : R { s with parentType := "paragraph" } { s' with parentType := "paragraph" })
    (leave : ∀ {t t'}, R t t' → R0 { t with parentType := s.parentType } { t' with parentType := s'.parentType }) :
    RuleFwd R0 (ruleParagraph ts ws s line endLine silent) (ruleParagraph ts' ws s' (line + n) (endLine + n) silent) := by
  unfold ruleParagraph
  dsimp only
  rw [show s'.lineMax - (line + n) + 1 = s.lineMax - line + 1 by omega, show line + n + 1 = line + 1 + n by omega]
  cases hq : paraScan ts s.lineMax (s.lineMax - line + 1) (line + 1) { s with parentType := "paragraph" } with
  | error e => exact Fwd.error
  | ok v =>
    obtain ⟨next, s1⟩ := v
    obtain ⟨⟨nx, s1'⟩, hq', hnx, h1⟩ := paraScan_fwd hR hterm s.lineMax hr _ _ enter _ hq
    have hnx : nx = next + n := hnx
    subst hnx
    rw [← hmax] at hq'
    simp only [hq']
    cases hgl : getLinesB s1 line next s1.blkIndent false with
    | error e => exact Fwd.error
    | ok c =>
      obtain ⟨_, hgl', rfl⟩ := getLinesB_reads (hR.reads h1) line next s1.blkIndent (hR.reads h1).blk_nn false c hgl
      rw [← (hR.reads h1).blkIndent] at hgl'
      simp only [hgl']
      exact Fwd.ok ⟨rfl, leave (hR.push _ _ _ _ _ _ _ _ _ rfl (hR.push _ _ _ _ _ _ _ _ _ rfl (hR.push _ _ _ _ _ _ _ _ _ rfl
        (hR.setLineNo next h1))))⟩

/-- `maxNesting` may differ between the runs as long as the nesting guard answers alike, and so may `hasEmptyLines` unless `tight`
is part of the relation (`tt`): the flag flows only into `state.tight` -/
theorem blockLoop_fwd {rules rules' : List BRule} {mn mn' : Int} (hlev : ∀ {s s'}, R s s' → (s'.level ≥ mn' ↔ s.level ≥ mn))
    {Call : Nat → Nat → Prop} (hchain : ChainFwd Call n R false rules rules') (endLine : Nat) (hr : ∀ i, i < endLine → V.Rng i ∧ Call i endLine) :
    ∀ (fuel line : Nat) (he he' : Bool) {s s'}, R s s' → (tt = true → he' = he) →
      Fwd R (blockLoop rules mn endLine fuel line he s) (blockLoop rules' mn' (endLine + n) fuel (line + n) he' s') := by
  intro fuel
  induction fuel with
  | zero =>
    intro line he he' s s' h _
    unfold blockLoop
    exact Fwd.ite (by omega) (fun _ => Fwd.error) (fun _ => Fwd.ok h)
  | succ f ih =>
    intro line he he' s s' h hhe
    unfold blockLoop
    refine Fwd.ite (by omega) (fun _ => ?_) (fun _ => Fwd.ok h)
    have e0 : skipEmptyLines s' (s'.lineMax + 1) (line + n) = skipEmptyLines s (s.lineMax + 1) line + n := by
      rw [(hR.reads h).lineMax, skipEmptyLines_reads (hR.reads h),
        skipEmptyLines_fuel s (s.lineMax + n + 1) (s.lineMax + 1) line (by omega) (by omega)]
    rw [e0]
    generalize skipEmptyLines s (s.lineMax + 1) line = line1
    have h1 := hR.setLineNo line1 h
    refine Fwd.ite (by omega) (fun _ => Fwd.ok h1) (fun _ => ?_)
    cases hq : s.lines[line1]? with
    | none => exact Fwd.error
    | some l =>
      obtain ⟨l', hq', _, hz⟩ := (hR.reads h).get line1 l hq
      simp only [hq']
      refine Fwd.ite (by rw [(hR.reads h).lt_blk (hz (hr _ (by omega)).1)]) (fun _ => Fwd.ok h1) (fun _ => ?_)
      refine Fwd.ite (hlev h) (fun _ => Fwd.ok (hR.setLineNo endLine h)) (fun _ => ?_)
      cases hc : runBlockChain rules { s with line := line1 } line1 endLine with
      | error e => exact Fwd.error
      | ok v =>
        obtain ⟨b, s2⟩ := v
        obtain ⟨s2', hc', h2⟩ := (runBlockChain_fwd hchain line1 endLine (hr _ (by omega)).2 h1).toRule hc
        simp only [hc']
        have hl2 : s2'.line = s2.line + n := hR.line h2
        have h3 := hR.setTight (!he) (!he') (fun ht => by rw [hhe ht]) h2
        refine Fwd.ite (by omega) (fun _ => Fwd.error) (fun hadv => ?_)
        have e1 : (if (s2'.line : Int) - 1 < ((endLine + n : Nat) : Int) then ({ s2' with tight := !he' } : BState).isEmpty ((s2'.line : Int) - 1) else .ok false)
            = (if (s2.line : Int) - 1 < (endLine : Int) then ({ s2 with tight := !he } : BState).isEmpty ((s2.line : Int) - 1) else .ok false) :=
          ite_congr (propext (by omega)) (fun _ => (hR.reads h3).isEmptyI (s2.line - 1) (by omega) (by omega)) (fun _ => rfl)
        have e2 : ({ s2' with tight := !he' } : BState).isEmpty (s2'.line : Int) = ({ s2 with tight := !he } : BState).isEmpty (s2.line : Int) :=
          (hR.reads h3).isEmptyI s2.line rfl (by rw [hl2])
        have next : ∀ (b b' : Bool), (tt = true → b' = b) →
            Fwd R (blockLoop rules mn endLine f s2.line b { s2 with tight := !he })
              (blockLoop rules' mn' (endLine + n) f s2'.line b' { s2' with tight := !he' }) := by
          intro b b' hb
          have a := ih s2.line b b' h3 hb
          rwa [← hl2] at a
        rw [e1]
        cases he1 : (if (s2.line : Int) - 1 < (endLine : Int) then ({ s2 with tight := !he } : BState).isEmpty ((s2.line : Int) - 1) else .ok false) with
        | error e => exact Fwd.error
        | ok e1v =>
          refine Fwd.ite (by omega) (fun _ => ?_) (fun _ => next _ _ (fun ht => by rw [hhe ht]))
          rw [e2]
          cases he2 : ({ s2 with tight := !he } : BState).isEmpty (s2.line : Int) with
          | error e => exact Fwd.error
          | ok e2v =>
            refine Fwd.ite Iff.rfl (fun _ => ?_) (fun _ => next _ _ (fun ht => by rw [hhe ht]))
            have a := ih (s2.line + 1) true true (hR.setLineNo (s2.line + 1) h3) (fun _ => rfl)
            rwa [show s2.line + 1 + n = s2'.line + 1 by omega] at a

end rules

def lead : List Char → Nat
  | [] => 0
  | c :: cs => if isSpaceTab c then lead cs + 1 else 0

theorem qLoop_spaces (bs : Nat) (adj : Int) : ∀ (l : List Char) (off : Int) (n : Nat), '\t' ∉ l →
    qLoop bs adj off l n = (off + (lead l : Int), n + lead l) := by
  intro l
  induction l with
  | nil => intro off n _; simp [qLoop, lead]
  | cons c cs ih =>
    intro off n hnt
    have hc : c ≠ '\t' := fun e => hnt (by simp [e])
    have hcs : '\t' ∉ cs := fun e => hnt (by simp [e])
    simp only [qLoop, hc, if_false]
    by_cases hsp : c = ' '
    · subst hsp
      simp only [if_true]
      rw [ih _ _ hcs]
      simp only [lead, isSpaceTab, beq_self_eq_true, Bool.true_or, if_true]
      simp only [Prod.mk.injEq]; constructor <;> omega
    · simp only [hsp, if_false]
      have : isSpaceTab c = false := by
        simp only [isSpaceTab, Bool.or_eq_false_iff, beq_eq_false_iff_ne]; exact ⟨hsp, hc⟩
      simp [lead, this]

theorem qLoop_notab (bs bs' : Nat) (adj : Int) : ∀ (text : List Char) (off : Int) (n : Nat), '\t' ∉ text →
    qLoop bs adj off text n = qLoop bs' adj off text n :=
  fun text off n h => (qLoop_spaces bs adj text off n h).trans (qLoop_spaces bs' adj text off n h).symm

theorem quoteHead_notab (bs bs' : Nat) (sc : Int) (after : List Char) (h : '\t' ∉ after) :
    quoteHead bs sc after = quoteHead bs' sc after := by
  unfold quoteHead
  split
  · rfl
  · rename_i tail; exact absurd (by simp) h
  · rfl

theorem quoteStrip_sim {l l' : BLine} (hz : zb l' = zb l) (hnt : '\t' ∉ l.text) :
    zb (quoteStrip l').1 = zb (quoteStrip l).1 ∧ (quoteStrip l').2 = (quoteStrip l).2 ∧ '\t' ∉ (quoteStrip l).1.text := by
  obtain ⟨hsc, htx, hts, hlf⟩ := zb_eq hz
  have hb : l'.body = l.body := zb_body hz
  have hnb : '\t' ∉ l.body := fun h => hnt (List.mem_of_mem_drop h)
  have hna : '\t' ∉ List.drop 1 l.body := fun h => hnb (List.mem_of_mem_drop h)
  simp only [quoteStrip, hb, hsc, hlf, quoteHead_notab l'.bs l.bs l.sCount _ hna]
  have hnd : '\t' ∉ List.drop (quoteHead l.bs l.sCount (List.drop 1 l.body)).1 (List.drop 1 l.body) := fun h => hna (List.mem_of_mem_drop h)
  rw [qLoop_notab l'.bs l.bs _ _ _ 0 hnd]
  exact ⟨by simp [zb], rfl, hnd⟩

theorem LR.set {ls ls' : List BLine} (h : LR ls ls') (i : Nat) {a a' : BLine} (hz : zb a' = zb a) : LR (ls.set i a) (ls'.set i a') := by
  unfold LR at *
  rw [List.map_set, List.map_set, h, hz]

theorem NoTab.set {ls : List BLine} (h : NoTab ls) (i : Nat) {a : BLine} (ha : '\t' ∉ a.text) : NoTab (ls.set i a) := by
  intro l hl
  rcases List.mem_or_eq_of_mem_set hl with h1 | h1
  · exact h l h1
  · subst h1; exact ha

/-- `LR` and `NoTab` of the entries the two quote scans have saved -/
def LRs (sv sv' : List BLine) : Prop := sv.map zb = sv'.map zb ∧ NoTab sv

theorem LRs.snoc {sv sv' : List BLine} (h : LRs sv sv') {a a' : BLine} (hz : zb a' = zb a) (ha : '\t' ∉ a.text) :
    LRs (sv ++ [a]) (sv' ++ [a']) := by
  refine ⟨by simp [h.1, hz], ?_⟩
  intro l hl
  rw [List.mem_append] at hl
  rcases hl with hl | hl
  · exact h.2 l hl
  · simp at hl; subst hl; exact ha

def zbView : LinesRel where
  W := 0
  Rng _ := True
  L l l' := zb l' = zb l ∧ '\t' ∉ l.text
  Lw l l' := zb l' = zb l ∧ '\t' ∉ l.text
  body h := zb_body h.1
  sc h := by rw [(zb_eq h.1).1]; simp
  tsh h := (zb_eq h.1).2.2.1
  notab h := h.2
  nn _ := .inl rfl
  wk h := h
  empty h := zb_empty h.1
  lf h := (zb_eq h.1).2.2.2
  cut := by
    intro l l' x indent h hx _
    obtain ⟨_, h2, h3, _⟩ := zb_eq h.1
    have hnt : '\t' ∉ l.text ++ x := by
      intro hm; rcases List.mem_append.1 hm with hm | hm
      · exact h.2 hm
      · rcases hx with e | e <;> simp [e] at hm
    rw [h2, h3, show indent + ((0 : Nat) : Int) = indent by simp]
    exact cutLineI_notab _ l.tShift l'.bs l.bs indent hnt

theorem Reads.blk0 {n s s'} (h : Reads zbView n s s') : s'.blkIndent = s.blkIndent := by
  have := h.blkIndent; simpa [zbView] using this

/-- the two further updates the quote rule performs -/
structure QuoteOps (n : Nat) (R : BState → BState → Prop) : Prop where
  setLineMax : ∀ {s s'} (a : Nat), R s s' → R { s with lineMax := a } { s' with lineMax := a + n }
  setLine : ∀ {s s'} (i : Nat) {a a' : BLine}, zb a' = zb a → '\t' ∉ a.text → R s s' → R (s.setLine i a) (s'.setLine (i + n) a')

section rules
variable {n : Nat} {tt : Bool} {R : BState → BState → Prop} (hR : Lockstep zbView n tt R) (hQ : QuoteOps n R)

include hQ in
theorem restoreLines_fwd : ∀ (sv sv' : List BLine) {s s' : BState} (start : Nat), R s s' → LRs sv sv' →
    R (restoreLines s start sv) (restoreLines s' (start + n) sv') := by
  intro sv
  induction sv with
  | nil =>
    intro sv' s s' start h hsv
    have : sv' = [] := by
      have := congrArg List.length hsv.1; simp at this; exact List.eq_nil_of_length_eq_zero this.symm
    subst this; exact h
  | cons a rest ih =>
    intro sv' s s' start h hsv
    cases sv' with
    | nil => have := congrArg List.length hsv.1; simp at this
    | cons a' rest' =>
      have hm := hsv.1
      simp only [List.map_cons, List.cons.injEq] at hm
      simp only [restoreLines]
      rw [show start + n + 1 = start + 1 + n by omega]
      exact ih rest' _ (hQ.setLine start hm.1.symm (hsv.2 a (by simp)) h) ⟨hm.2, fun l hl => hsv.2 l (by simp [hl])⟩

include hR hQ in
theorem quoteScan_fwd {ts ts' : List BRule} (hterm : ChainFwd (fun _ _ => True) n R true ts ts') (endLine : Nat) :
    ∀ (fuel next : Nat) (le : Bool) {s s'} (sv sv' : List BLine), R s s' → LRs sv sv' →
      Fwd (fun x y => y.1 = x.1 + n ∧ R x.2.1 y.2.1 ∧ LRs x.2.2 y.2.2) (quoteScan ts endLine fuel next le s sv)
        (quoteScan ts' (endLine + n) fuel (next + n) le s' sv') := by
  intro fuel
  induction fuel with
  | zero => intro next le s s' sv sv' _ _; exact Fwd.error
  | succ f ih =>
    intro next le s s' sv sv' h hsv
    unfold quoteScan
    rw [show next + n + 1 = next + 1 + n by omega]
    refine Fwd.ite (by omega) (fun _ => ?_) (fun _ => Fwd.ok ⟨rfl, h, hsv⟩)
    cases hg : getL s next with
    | error e => exact Fwd.error
    | ok l =>
      obtain ⟨l', hg', hz, hnt⟩ := (hR.reads h).getL trivial hg
      have c1 : (l'.sCount < s'.blkIndent) = (l.sCount < s.blkIndent) := by rw [(zb_eq hz).1, (hR.reads h).blk0]
      obtain ⟨q1, q2, q3⟩ := quoteStrip_sim hz hnt
      simp only [hg', zb_empty hz, zb_body hz, c1, q2]
      refine Fwd.ite Iff.rfl (fun _ => Fwd.ok ⟨rfl, h, hsv⟩) (fun _ => ?_)
      refine Fwd.ite Iff.rfl (fun _ => ih _ _ _ _ (hQ.setLine next q1 q3 h) (hsv.snoc hz hnt)) (fun _ => ?_)
      refine Fwd.ite Iff.rfl (fun _ => Fwd.ok ⟨rfl, h, hsv⟩) (fun _ => ?_)
      cases hq : runTerminators ts s next endLine with
      | error e => exact Fwd.error
      | ok v =>
        obtain ⟨b, s1⟩ := v
        obtain ⟨s1', hq', h1⟩ := (runTerminators_fwd hterm next endLine trivial h).toRule hq
        cases b with
        | true =>
          simp only [hq']
          refine Fwd.ite (by rw [(hR.reads h1).blk0]) (fun _ => ?_) (fun _ => Fwd.ok ⟨rfl, hQ.setLineMax next h1, hsv⟩)
          cases hg1 : getL s1 next with
          | error e => exact Fwd.error
          | ok l1 =>
            obtain ⟨l1', hg1', hz1, hnt1⟩ := (hR.reads h1).getL trivial hg1
            simp only [hg1']
            have hz2 : zb ({ l1' with sCount := l1'.sCount - s1'.blkIndent } : BLine) = zb { l1 with sCount := l1.sCount - s1.blkIndent } := by
              obtain ⟨a1, a2, a3, a4⟩ := zb_eq hz1
              simp [zb, a1, a2, a3, a4, (hR.reads h1).blk0]
            exact Fwd.ok ⟨rfl, hQ.setLine next hz2 hnt1 (hQ.setLineMax next h1), hsv.snoc hz1 hnt1⟩
        | false =>
          simp only [hq']
          cases hg1 : getL s1 next with
          | error e => exact Fwd.error
          | ok l1 =>
            obtain ⟨l1', hg1', hz1, hnt1⟩ := (hR.reads h1).getL trivial hg1
            simp only [hg1']
            have hz2 : zb ({ l1' with sCount := -1 } : BLine) = zb { l1 with sCount := -1 } := by
              obtain ⟨a1, a2, a3, a4⟩ := zb_eq hz1
              simp [zb, a2, a3, a4]
            exact ih _ _ _ _ (hQ.setLine next hz2 hnt1 h1) (hsv.snoc hz1 hnt1)

include hR hQ in
/-- the quote rule.  `R` relates the states during the search for the end of the quote.  How the relation is carried into the nested
run (`R3`, which may depend on the states the scan returned), re-established after the closing token, the map patch and the restore
of `lineMax` / `parentType` (`R6`), and finally with `blkIndent` restored (`R0`, the relation at entry) depends on how the token
lists are related and is the caller's part. -/
theorem quote_fwd {R0 R6 : BState → BState → Prop} {R3 : BState → BState → BState → BState → Prop} (hQ6 : QuoteOps n R6)
    (codeOn : Bool) {ts ts' inner inner' : List BRule} {mn mn' : Int} (hterm : ChainFwd (fun _ _ => True) n R true ts ts') {s s'} (line endLine : Nat)
    (silent : Bool) (h0 : R0 s s') (hrd : Reads zbView n s s')
    (enter : ∀ {a a' : BLine}, zb a' = zb a → '\t' ∉ a.text →
      R { (s.setLine line a) with parentType := "blockquote" } { (s'.setLine (line + n) a') with parentType := "blockquote" })
    (hopen : ∀ {x x'}, R x x' → R3 x x' (quoteEnter x line) (quoteEnter x' (line + n)))
    (hin : ∀ {x x' y y'} (next : Nat), R3 x x' y y' →
      Fwd (R3 x x') (blockTokenize inner mn y line next) (blockTokenize inner' mn' y' (line + n) (next + n)))
    (hclose : ∀ {x x' y y'}, R x x' → R3 x x' y y' →
      R6 (finish6 (y.pushFull "blockquote_close" "blockquote" (-1) none none "" ">" "") s.lineMax s.parentType x.tokens.length line)
        (finish6 (y'.pushFull "blockquote_close" "blockquote" (-1) none none "" ">" "") s'.lineMax s'.parentType x'.tokens.length (line + n)))
    (hblk : ∀ {x x' y y'}, R x x' → R6 y y' → R0 { y with blkIndent := x.blkIndent } { y' with blkIndent := x'.blkIndent }) :
    RuleFwd R0 (ruleBlockquote codeOn ts inner mn s line endLine silent)
      (ruleBlockquote codeOn ts' inner' mn' s' (line + n) (endLine + n) silent) := by
  rw [ruleBlockquote_eq, ruleBlockquote_eq]
  cases hg : getL s line with
  | error e => exact Fwd.error
  | ok l =>
    obtain ⟨l', hg', hz, hnt⟩ := hrd.getL trivial hg
    obtain ⟨q1, q2, q3⟩ := quoteStrip_sim hz hnt
    simp only [hg', hrd.isCode codeOn ⟨hz, hnt⟩, zb_body hz]
    refine Fwd.ite Iff.rfl (fun _ => .same h0) (fun _ => ?_)
    refine Fwd.ite Iff.rfl (fun _ => .same h0) (fun _ => ?_)
    refine Fwd.ite Iff.rfl (fun _ => .same h0) (fun _ => ?_)
    unfold quoteRun
    rw [show line + n + 1 = line + 1 + n by omega, Nat.add_sub_add_right, q2]
    cases hq : quoteScan ts endLine (endLine - line + 1) (line + 1) (quoteStrip l).2 (quoteStart s line l) [l] with
    | error e => exact Fwd.error
    | ok v =>
      obtain ⟨next, s2, saved⟩ := v
      obtain ⟨⟨nx, s2', saved'⟩, hq', hnx, h2, hsv⟩ := quoteScan_fwd hR hQ hterm endLine _ _ _ [l] [l']
        (s := quoteStart s line l) (s' := quoteStart s' (line + n) l') (enter q1 q3) ⟨by simp [hz], fun x hx => by simp at hx; subst hx; exact hnt⟩ _ hq
      have hnx : nx = next + n := hnx
      subst hnx
      simp only [hq']
      cases hr : blockTokenize inner mn (quoteEnter s2 line) line next with
      | error e => exact Fwd.error
      | ok s4 =>
        obtain ⟨s4', hr', h4⟩ := hin next (hopen h2) s4 hr
        simp only [hr']
        exact Fwd.ok ⟨rfl, hblk h2 (restoreLines_fwd hQ6 saved saved' line (hclose h2 h4) hsv)⟩

end rules

theorem SR.reads {k pre s s'} (h : SR k pre s s') : Reads zbView 0 s s' := by
  refine ⟨fun i l hl => ?_, fun i hq => ?_, h.lineMax, by rw [h.blkIndent]; simp [zbView], .inl rfl⟩
  · obtain ⟨l', h1, h2⟩ := h.lines.get i l hl
    exact ⟨l', h1, ⟨h2, h.notab l (List.mem_of_getElem? hl)⟩, fun _ => ⟨h2, h.notab l (List.mem_of_getElem? hl)⟩⟩
  · rw [List.getElem?_eq_none_iff] at hq ⊢; rw [h.lines.length]; exact hq

theorem getL_sim_err {k pre s s'} (h : SR k pre s s') (i : Nat) (e : PyErr) (hg : getL s i = .error e) : getL s' i = .error e := by
  have hi := getL_error hg
  rw [← hg, getL_of_le hi]
  exact getL_of_le (h.lines.length ▸ hi)

theorem shift_pushed (k : Int) (s s' : BState) (hl : s'.level = s.level + k) (a b : String) (n : Int) (m c d e f) :
    pushedTok s' a b n m c d e f = (pushedTok s a b n m c d e f).shift k := by
  by_cases hn : n < 0
  · simp only [pushedTok, Tok.shift, hl, hn, if_true]; congr 1; omega
  · simp only [pushedTok, Tok.shift, hl, hn, if_false]

theorem SR.push {k pre s s'} (h : SR k pre s s') (a b : String) (n : Int) (m c d e f) :
    SR k pre (s.pushFull a b n m c d e f) (s'.pushFull a b n m c d e f) := by
  refine ⟨h.lines, h.notab, h.line, h.lineMax, h.blkIndent, ?_, h.tight, h.listIndent, ?_⟩
  · simp only [BState.pushFull, h.level]; split <;> split <;> omega
  · rw [pushFull_tokens, pushFull_tokens, h.tokens, shift_pushed k s s' h.level]
    simp

theorem SR.setLine {k pre s s'} (h : SR k pre s s') (i : Nat) {a a' : BLine} (hz : zb a' = zb a) (ha : '\t' ∉ a.text) :
    SR k pre (s.setLine i a) (s'.setLine i a') :=
  ⟨h.lines.set i hz, h.notab.set i ha, h.line, h.lineMax, h.blkIndent, h.level, h.tight, h.listIndent, h.tokens⟩

theorem SR.setBlk {k pre s s'} (h : SR k pre s s') (n : Int) : SR k pre { s with blkIndent := n } { s' with blkIndent := n } :=
  ⟨h.lines, h.notab, h.line, h.lineMax, rfl, h.level, h.tight, h.listIndent, h.tokens⟩

theorem SR.lockstep (k : Int) (pre : List Tok) : Lockstep zbView 0 true (SR k pre) where
  reads := SR.reads
  line h := h.line
  setLineNo _ h := ⟨h.lines, h.notab, rfl, h.lineMax, h.blkIndent, h.level, h.tight, h.listIndent, h.tokens⟩
  setTight _ _ hb h := ⟨h.lines, h.notab, h.line, h.lineMax, h.blkIndent, h.level, hb rfl, h.listIndent, h.tokens⟩
  push a b ne m m' c d e f hm h := by
    have : m' = m := by subst hm; cases m <;> rfl
    subst this; exact h.push a b ne _ c d e f

theorem SR.quoteOps (k : Int) (pre : List Tok) : QuoteOps 0 (SR k pre) where
  setLineMax _ h := ⟨h.lines, h.notab, h.line, rfl, h.blkIndent, h.level, h.tight, h.listIndent, h.tokens⟩
  setLine i _ _ hz ha h := h.setLine i hz ha

/-- `r'` follows `r`: from `SR`-related states (any `pre`), whatever `r` returns `r'` returns too, with the same flag and `SR` kept -/
def Sim (k : Int) (r r' : BRule) : Prop :=
  ∀ pre s s' line endLine silent m t, SR k pre s s' → r s line endLine silent = .ok (m, t) →
    ∃ t', r' s' line endLine silent = .ok (m, t') ∧ SR k pre t t'

/-- from `h : .ok (m₀, t₀) = .ok (m, t)` and the relation `hsr` at `t₀`: closes `∃ t', .ok (m₀, t₀') = .ok (m, t') ∧ R t t'` -/
macro "sim_same" h:ident hsr:term : tactic =>
  `(tactic| (simp only [Except.ok.injEq, Prod.mk.injEq] at $h:ident; obtain ⟨h1, h2⟩ := $h:ident; subst h1; subst h2; exact ⟨_, rfl, $hsr⟩))

theorem sim_hr (k : Int) (codeOn : Bool) : Sim k (ruleHr codeOn) (ruleHr codeOn) :=
  fun pre _ _ line endLine silent _ _ hsr h => (hr_fwd (SR.lockstep k pre) codeOn hsr line endLine silent trivial).toRule h

theorem sim_heading (k : Int) (codeOn : Bool) (ws : List Nat) : Sim k (ruleHeading codeOn ws) (ruleHeading codeOn ws) :=
  fun pre _ _ line endLine silent _ _ hsr h => (heading_fwd (SR.lockstep k pre) codeOn ws hsr line endLine silent trivial).toRule h

theorem sim_code (k : Int) (codeOn : Bool) : Sim k (ruleCode codeOn) (ruleCode codeOn) :=
  fun pre _ _ line endLine silent _ _ hsr h => (code_fwd (SR.lockstep k pre) codeOn hsr line endLine silent trivial (fun _ _ => trivial)).toRule h

theorem sim_fence (k : Int) (codeOn : Bool) : Sim k (ruleFence codeOn) (ruleFence codeOn) :=
  fun pre _ _ line endLine silent _ _ hsr h => (fence_fwd (SR.lockstep k pre) codeOn hsr line endLine silent trivial (fun _ _ => trivial)).toRule h

inductive Sims (k : Int) : List BRule → List BRule → Prop where
  | nil : Sims k [] []
  | cons {r r' rs rs'} : Sim k r r' → Sims k rs rs' → Sims k (r :: rs) (r' :: rs')

theorem Sims.append {k} {a a' b b' : List BRule} (h1 : Sims k a a') (h2 : Sims k b b') : Sims k (a ++ b) (a' ++ b') := by
  induction h1 with
  | nil => exact h2
  | cons hr _ ih => exact .cons hr ih

theorem Sims.opt {k} (c : Bool) {r r' : BRule} (h : Sim k r r') : Sims k (if c then [r] else []) (if c then [r'] else []) := by
  cases c
  · exact .nil
  · exact .cons h .nil

theorem Sims.chain {k} {rs rs' : List BRule} (hs : Sims k rs rs') (pre : List Tok) (silent : Bool) :
    ChainFwd (fun _ _ => True) 0 (SR k pre) silent rs rs' := by
  induction hs with
  | nil => exact .nil
  | cons hr _ ih => exact .cons (fun line endLine _ h => Fwd.ofRule fun m t hq => hr pre _ _ line endLine silent m t h hq) ih

theorem runTerminators_sim {k} {ts ts' : List BRule} (hs : Sims k ts ts') :
    ∀ {pre s s'} (line endLine : Nat) (b : Bool) (s1 : BState), SR k pre s s' → runTerminators ts s line endLine = .ok (b, s1) →
      ∃ s1', runTerminators ts' s' line endLine = .ok (b, s1') ∧ SR k pre s1 s1' :=
  fun line endLine _ _ hsr h => (runTerminators_fwd (hs.chain _ true) line endLine trivial hsr).toRule h

theorem SR.setParent {k pre s s'} (h : SR k pre s s') (p p' : String) : SR k pre { s with parentType := p } { s' with parentType := p' } :=
  ⟨h.lines, h.notab, h.line, h.lineMax, h.blkIndent, h.level, h.tight, h.listIndent, h.tokens⟩

theorem sim_paragraph (k : Int) {ts ts' : List BRule} (hs : Sims k ts ts') (ws : List Nat) :
    Sim k (ruleParagraph ts ws) (ruleParagraph ts' ws) :=
  fun pre _ _ line endLine silent _ _ hsr h =>
    (paragraph_fwd (SR.lockstep k pre) (hs.chain pre true) ws line endLine silent hsr.lineMax (fun _ _ => ⟨trivial, trivial⟩) (hsr.setParent _ _)
      (fun h => h.setParent _ _)).toRule h

theorem blockLoop_sim {k} {rules rules' : List BRule} (hs : Sims k rules rules') (mn : Int) (endLine : Nat) :
    ∀ (fuel line : Nat) (he : Bool) {pre s s'} (t : BState), SR k pre s s' → blockLoop rules mn endLine fuel line he s = .ok t →
      ∃ t', blockLoop rules' (mn + k) endLine fuel line he s' = .ok t' ∧ SR k pre t t' :=
  fun fuel line he pre _ _ t hsr h =>
    blockLoop_fwd (SR.lockstep k pre) (fun h => by rw [h.level]; omega)
      (hs.chain pre false) endLine (fun _ _ => ⟨trivial, trivial⟩) fuel line he he hsr (fun _ => rfl) t h

theorem quoteScan_sim {k} {ts ts' : List BRule} (hs : Sims k ts ts') (endLine : Nat) :
    ∀ (fuel next : Nat) (le : Bool) {pre s s'} (sv sv' : List BLine) (nx : Nat) (s2 : BState) (sv2 : List BLine),
      SR k pre s s' → LRs sv sv' → quoteScan ts endLine fuel next le s sv = .ok (nx, s2, sv2) →
      ∃ s2' sv2', quoteScan ts' endLine fuel next le s' sv' = .ok (nx, s2', sv2') ∧ SR k pre s2 s2' ∧ LRs sv2 sv2' := by
  intro fuel next le pre s s' sv sv' nx s2 sv2 hsr hsv h
  obtain ⟨⟨_, s2', sv2'⟩, hq, rfl, h2, hv⟩ := quoteScan_fwd (SR.lockstep k pre) (SR.quoteOps k pre)
    (hs.chain pre true) endLine fuel next le sv sv' hsr hsv _ h
  exact ⟨s2', sv2', hq, h2, hv⟩

theorem restoreLines_sim {k pre} : ∀ (sv sv' : List BLine) (s s' : BState) (start : Nat), SR k pre s s' → LRs sv sv' →
    SR k pre (restoreLines s start sv) (restoreLines s' start sv') :=
  fun sv sv' _ _ start hsr hsv => restoreLines_fwd (SR.quoteOps k pre) sv sv' start hsr hsv

theorem shift_setMap (k : Int) (t : Tok) (m) : (t.setMap m).shift k = (t.shift k).setMap m := by cases t; rfl

theorem SR.finish6 {k pre s5 s5'} (h : SR k pre s5 s5') (lm lm' : Nat) (pt pt' : String) (ntok line : Nat) (hlm : lm' = lm) :
    SR k pre (finish6 s5 lm pt ntok line) (finish6 s5' lm' pt' (pre.length + ntok) line) := by
  refine ⟨h.lines, h.notab, h.line, hlm, h.blkIndent, h.level, h.tight, h.listIndent, ?_⟩
  show List.modify _ _ _ = _
  rw [h.tokens, h.line, modify_append_right, map_modify _ _ _ (fun t => (shift_setMap k t _).symm)]
  rfl

/-- the same of whole runs: over any range `[a, b)` the run of `inner'` under `maxNesting + k` follows that of `inner` under `maxNesting` -/
def NestedSim (k : Int) (inner inner' : List BRule) (mn : Int) : Prop :=
  ∀ {pre s s'} (a b : Nat) (t : BState), SR k pre s s' → blockTokenize inner mn s a b = .ok t →
    ∃ t', blockTokenize inner' (mn + k) s' a b = .ok t' ∧ SR k pre t t'

theorem Sims.nested {k} {inner inner' : List BRule} (hs : Sims k inner inner') (mn : Int) : NestedSim k inner inner' mn :=
  fun a b t hsr h => blockLoop_sim hs mn b _ a false t hsr h

theorem sim_quote (k : Int) (codeOn : Bool) {ts ts' inner inner' : List BRule} (hts : Sims k ts ts') (hin : Sims k inner inner') (mn : Int) :
    Sim k (ruleBlockquote codeOn ts inner mn) (ruleBlockquote codeOn ts' inner' (mn + k)) := by
  intro pre s s' line endLine silent m t hsr
  refine (quote_fwd (R3 := fun _ _ => SR k pre) (SR.lockstep k pre) (SR.quoteOps k pre) (SR.quoteOps k pre) codeOn (hts.chain pre true) line endLine silent hsr hsr.reads
    (fun hz ha => (hsr.setLine line hz ha).setParent _ _) (fun h => (h.setBlk 0).push _ _ _ _ _ _ _ _)
    (fun next h => fun y hy => hin.nested mn line next y h hy) ?_ (fun hx hy => by rw [hx.blkIndent]; exact hy.setBlk _)).toRule
  intro x x' y y' hx hy
  have h6 := (hy.push "blockquote_close" "blockquote" (-1) none none "" ">" "").finish6 s.lineMax s'.lineMax s.parentType s'.parentType
    x.tokens.length line hsr.lineMax
  rwa [show pre.length + x.tokens.length = x'.tokens.length by rw [hx.tokens]; simp] at h6

theorem qTerminators_sims (k : Int) (c : MiniCfg) (ws : List Nat) (mn : Int) :
    Sims k (qTerminators c ws mn) (qTerminators c ws (mn + k)) := by
  unfold qTerminators
  exact (((Sims.opt c.fence (sim_fence k c.code)).append (.cons (sim_quote k c.code .nil .nil mn) .nil)).append
    (Sims.opt c.hr (sim_hr k c.code))).append (Sims.opt c.heading (sim_heading k c.code ws))

theorem qChain_sims (k : Int) (c : MiniCfg) (ws : List Nat) (mn : Int) : ∀ d : Nat,
    Sims k (qChain c ws mn d) (qChain c ws (mn + k) d) := by
  intro d
  induction d with
  | zero => exact .nil
  | succ d ih =>
    unfold qChain
    exact (((((Sims.opt c.code (sim_code k c.code)).append (Sims.opt c.fence (sim_fence k c.code))).append
      (.cons (sim_quote k c.code (qTerminators_sims k c ws mn) ih mn) .nil)).append (Sims.opt c.hr (sim_hr k c.code))).append
      (Sims.opt c.heading (sim_heading k c.code ws))).append (.cons (sim_paragraph k (qTerminators_sims k c ws mn) ws) .nil)

end MdIt.C06
