import MdIt.Props.C02d
import MdIt.Props.C01h
/-!
# C02 (continued) — the block sub-parser with `html_block` and `lheading` emits well-formed streams

The segment contract K5 for the two rules is read off their leaf forms; the containers' contracts are generic in their chains.
-/
namespace MdIt.C02
open MdIt.C01

theorem segOK_htmlBlock (P) (codeOn htmlOn : Bool) : SegOK P WellSegS (ruleHtmlBlock codeOn htmlOn) :=
  C02.segOK_of_leaf (html_shape P codeOn htmlOn) fun s _ _ _ _ _ ⟨_, _, _, _, hseg⟩ => hseg ▸ wellSeg_leaf s ..

theorem segOK_lheadingE (P : BState → Nat → Prop) (codeOn : Bool) (terms : List BRule) (hin : ∀ t ∈ terms, SilentInertE t) (ws : List Nat) :
    SegOK P WellSegS (ruleLheading codeOn terms ws) :=
  C02.segOK_of_leaf (lheading_shapeE P codeOn terms hin ws) fun s _ _ _ _ _ ⟨_, _, _, _, _, _, hseg, _⟩ => hseg ▸ wellSeg_triple s ..

theorem mParse_segs (S : BState → List Tok → Prop) (hw : QuoteWrap S) (hlw : ListWrap S) (c : MCfg) (ws : List Nat) (mn : Int)
    (hleaf : ∀ (P : BState → Nat → Prop), ∀ r ∈ mLeaves c ws mn, SegOK P S r) (src : List Char) (ts : List Tok)
    (h : mParse c ws mn src = .ok ts) :
    ∃ segs : List (List Tok), ts = segs.flatten ∧ ∀ g ∈ segs, S (initBState (normalize src)) g := by
  obtain ⟨st, hst, rfl⟩ := parseWith_state h
  exact parse_segs S mn _ (tower_segL (mTower c ws mn) (mChain_ok c ws mn) S hw hlw hleaf _).2 src st hst

theorem wellSeg_leavesM (P : BState → Nat → Prop) (c : MCfg) {pt : List BRule} (hpt : ∀ t ∈ pt, SilentInertE t) (ws : List Nat) :
    ∀ r ∈ leavesM c pt ws, SegOK P WellSegS r :=
  forall_leavesM (wellSeg_leaves P c.toMiniCfg hpt ws) (fun _ => segOK_htmlBlock _ _ _) (fun _ => segOK_lheadingE _ _ _ hpt ws)

/-- **C02.m_wellformed** — nine of the eleven block rules, containers nested in each other to any depth: for every source, rule subset,
`html` option and `maxNesting`, the block stream is levelled from 0, ends at depth 0, is balanced, and `SyntaxTreeNode(tokens)` builds -/
theorem m_wellformed (c : MCfg) (ws : List Nat) (maxNesting : Int) (src : List Char) (ts : List Tok)
    (h : mParse c ws maxNesting src = .ok ts) :
    levelsOK 0 ts ∧ depthAfter 0 ts = 0 ∧ balancedFrom 0 ts = true ∧ ∃ f, buildTree ts = .ok f := by
  obtain ⟨segs, hts, hS⟩ := mParse_segs WellSegS wellSegS_wrap wellSegS_listWrap c ws maxNesting
    (wellSeg_leavesM · c (inertE_of_inert (mTerminators_inert c ws maxNesting)) ws) src ts h
  exact wellformed_of_segs rfl hts hS

end MdIt.C02
