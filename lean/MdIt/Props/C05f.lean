import MdIt.Props.C05g
import MdIt.Props.C10p
/-!
# C05 (continued) — with the `reference` block rule: every destination the parse resolves *through its own definitions* is validated

The ten-rule model (`rChain`, `rParse`, `fullParseR`) is the eleven-rule one with the table rule off (`C10.tChain_off`, `tParse_off`,
`fullParseT_off`), so the statements here are those of `C05g` at `table := false`.  The `RefsOK` hypothesis of `full_hrefs` is thereby
reduced to the env the caller passes in.  (The statements are about results: that the ten-rule parse always returns is not a theorem,
see `C16b`.)
-/
namespace MdIt.C05
open MdIt.C01 MdIt.C16

theorem rChain_keeps (ext : IExt) (lx : LExt) (c : RCfg) (ws : List Nat) (mn : Int) :
    ∀ d : Nat, ∀ r ∈ rChain ext lx c ws mn d, Keeps (RefsValid ext) r :=
  fun d => C10.tChain_off ext lx ⟨c, false⟩ rfl ws mn d ▸ tChain_keeps ext lx ⟨c, false⟩ ws mn d

theorem mTerminators_keeps (ext : IExt) (c : MCfg) (ws : List Nat) (mn : Int) : ∀ t ∈ mTerminators c ws mn, Keeps (RefsValid ext) t :=
  mTerminators_keepsJ (refsValid_onTables ext) c ws mn

theorem mListTerms_keeps (ext : IExt) (c : MCfg) (mn : Int) : ∀ t ∈ mListTerms c mn, Keeps (RefsValid ext) t :=
  mListTerms_keepsJ (refsValid_onTables ext) c mn

/-- **every entry the block parse records in `env["references"]` / `env["duplicate_refs"]` is a validated destination** -/
theorem rParse_refsValid (ext : IExt) (lx : LExt) (c : RCfg) (ws : List Nat) (mn : Int) (src : List Char) (s : BState)
    (h : rParse ext lx c ws mn src = .ok s) : RefsValid ext s :=
  tParse_refsValid ext lx ⟨c, false⟩ ws mn src s (by rw [C10.tParse_off ext lx ⟨c, false⟩ rfl]; exact h)

/-- **C05.fullR_hrefs** — for a parse started from an acceptable (possibly empty) env, every `link_open` / `image` below every `inline`
token, at any depth, carries an empty or URL-safe destination with no dangerous scheme, *including reference links and images
resolved through definitions that stand in the document itself* -/
theorem fullR_hrefs (cls : QCls) (ext : IExt) (lx : LExt) (hrefs : RefsOK lx) (rc : RCfg) (ic : ICfg) (hon : ic.inlineOn = true) (ws : List Nat)
    (mn : Int) (d : Nat) (src : List Char) (ts : List Tok) (refs dups : List (List Char × List Char × List Char))
    (h : fullParseR cls ext lx rc ic ws mn d src = .ok (ts, refs, dups)) :
    (∀ e ∈ refs ++ dups, DestOK e.2.1)
    ∧ ∀ t ∈ ts, t.type = "inline" → ∀ x ∈ descOpt t.children,
      (x.type = "link_open" → ∃ href : List Char, x.attrs.head? = some ("href", .s (String.ofList href)) ∧ DestOK href)
      ∧ (x.type = "image" → ∃ s : List Char, x.attrs.head? = some ("src", .s (String.ofList s)) ∧ DestOK s) :=
  fullT_hrefs cls ext lx hrefs ⟨rc, false⟩ ic hon ws mn d src ts refs dups (by rw [C10.fullParseT_off cls ext lx ⟨rc, false⟩ rfl]; exact h)

end MdIt.C05

namespace MdIt.C05
open MdIt.C01

/-! non-vacuity: definitions at top level and inside a quote, one with a multi-line title, one with a dangerous destination (not
recorded: its lines stay a paragraph and `[bad]` stays text), uses before and after -/
example : fullRDests (fullParseR C02f.asciiCls ext0 { C01.lx0 with hasRefs := false, refs := fun _ => none }
      { code := true, fence := true, hr := true, heading := true, htmlBlock := false, lheading := true, html := false, reference := true,
        inlineDefs := false }
      { text := true, newline := true, escape := true, backticks := false, strike := false, emphasis := true, link := true, image := true,
        autolink := false, htmlInline := false, entity := false, fragJoin := true, inlineOn := true, textJoinOn := true }
      [32, 9, 10, 11, 12, 13] 20 40
      "[a] ![b]\n\n[a]: /x\n  'multi\n  line'\n> [b]: <y z>\n\n[bad]: javascript:q\n\n[bad] [b]\n".toList)
    = some ([("link_open", some ("href", .s "/x")), ("image", some ("src", .s "y%20z")), ("link_open", some ("href", .s "y%20z"))], ["A", "B"]) := by
  decide +kernel

end MdIt.C05
