import MdIt.Props.C07b
import MdIt.Props.C02d
import MdIt.Props.C10p
/-!
# C06 / C07 (continued) — the list rule in the simulation: the laws for the chains with both containers

The list rule is compared once (`list_fwd`), for `Rel F` with any family `F` of layout relations that can follow the rule into an
item and back (`ListFrame`); `markTightParagraphs` leaves what precedes the list alone and commutes with the shift
(`markTight_rel`).  `sh_list` is the instance for the relation `TR` of `Props/C07b.lean`; the column-shift relation of
`Props/C06e.lean` is the other.  Hence `lChain_shs` and the laws for the sub-parser `code, fence, blockquote, hr, list, heading,
paragraph`: `l_suffix_shift`, `l_concat_law` (C07) and `l_quote_law` (C06).  With `table`, `reference`, `html_block`, `lheading`
off the chain of the full model is `lChain` at every depth budget (`tChain_restricts`), so the C07 laws hold of `tChain` / `tParse`
(`t_suffix_shift`, `t_concat_law`).
-/
namespace MdIt.C07
open MdIt.C01 MdIt.C06

theorem markTightGo_fuel (level : Int) : ∀ (f f' i : Nat) (ts : List Tok), ts.length ≤ i + f → ts.length ≤ i + f' →
    markTightGo level f i ts = markTightGo level f' i ts := by
  intro f
  induction f with
  | zero =>
    intro f' i ts h1 _
    cases f' with
    | zero => rfl
    | succ m =>
      have : ¬ (i + 2 < ts.length) := by omega
      simp only [markTightGo, this, if_false]
  | succ m ih =>
    intro f' i ts h1 h2
    cases f' with
    | zero =>
      have : ¬ (i + 2 < ts.length) := by omega
      simp only [markTightGo, this, if_false]
    | succ m' =>
      simp only [markTightGo]
      split
      · split
        · split
          · exact ih m' (i + 3) _ (by simp only [List.length_modify]; omega) (by simp only [List.length_modify]; omega)
          · exact ih m' (i + 1) _ (by omega) (by omega)
        · rfl
      · rfl

theorem shift2_setHidden (k : Int) (n : Nat) (t : Tok) (h : Bool) : (t.setHidden h).shift2 k n = (t.shift2 k n).setHidden h := by cases t; rfl
@[simp] theorem shift2_levelk (k : Int) (n : Nat) (t : Tok) : (t.shift2 k n).level = t.level + k := by cases t; rfl

theorem markTightGo_map (k : Int) (n : Nat) (level : Int) : ∀ (f i : Nat) (b : List Tok),
    markTightGo (level + k) f i (b.map (Tok.shift2 k n)) = (markTightGo level f i b).map (Tok.shift2 k n) := by
  intro f
  induction f with
  | zero => intro i b; rfl
  | succ m ih =>
    intro i b
    simp only [markTightGo, List.length_map, List.getElem?_map]
    split
    · cases hb : b[i]? with
      | none => rfl
      | some t =>
        simp only [Option.map_some, shift2_levelk, shift2_type]
        have c : (t.level + k == level + k) = (t.level == level) := by
          by_cases h : t.level = level
          · subst h; simp
          · have h2 : t.level + k ≠ level + k := by omega
            rw [beq_eq_false_iff_ne.2 h, beq_eq_false_iff_ne.2 h2]
        rw [c]
        split
        · rw [map_modify _ _ _ (fun t => (shift2_setHidden k n t true).symm), map_modify _ _ _ (fun t => (shift2_setHidden k n t true).symm)]
          exact ih _ _
        · exact ih _ _
    · rfl

theorem markTight_rel (k : Int) (n : Nat) (level : Int) (a a' seg : List Tok) :
    markTight (level + k) a'.length (a' ++ seg.map (Tok.shift2 k n))
      = a' ++ (markTightGo (level + 2) seg.length 2 seg).map (Tok.shift2 k n)
    ∧ markTight level a.length (a ++ seg) = a ++ markTightGo (level + 2) seg.length 2 seg := by
  unfold markTight
  constructor
  · rw [markTightGo_prefix, markTightGo_fuel _ (a' ++ seg.map (Tok.shift2 k n)).length seg.length 2 _ (by simp; omega) (by simp)]
    have : level + k + 2 = level + 2 + k := by omega
    rw [this, markTightGo_map]
  · rw [markTightGo_prefix, markTightGo_fuel _ (a ++ seg).length seg.length 2 _ (by simp; omega) (by omega)]

/-- the layout of `listEnter s1 l sl _ _ ind`, `a` the rewritten first line -/
def Layout.enter (f : Layout) (sl : Nat) (a : BLine) (ind : Int) : Layout := ⟨f.lines.set sl a, f.lineMax, ind, f.blkIndent⟩

/-- the layout of `closeState _ s1 _ _ sl s3 _`, `a` the restored first line, `li = s1.listIndent` -/
def Layout.leave (g : Layout) (sl : Nat) (a : BLine) (li : Int) : Layout := ⟨g.lines.set sl a, g.lineMax, g.listIndent, li⟩

/-- `item`: into an item (`listEnter`: the first line retabbed, `blkIndent` at the content column, the old `blkIndent` kept in
`listIndent`; the nested run is related at some index `j`) and back out of it (`closeState`) -/
structure ListFrame (V : LinesRel) (n : Nat) {ι : Type} (F : ι → Layout → Layout → Prop) : Prop where
  reads : ∀ {i} {s s' : BState}, F i s.layout s'.layout → Reads V n s s'
  liTest : ∀ {i} {s s' : BState} {l l'}, F i s.layout s'.layout → V.L l l' →
    (decide (s'.listIndent ≥ 0) && decide (l'.sCount - s'.listIndent ≥ 4) && decide (l'.sCount < s'.blkIndent))
      = (decide (s.listIndent ≥ 0) && decide (l.sCount - s.listIndent ≥ 4) && decide (l.sCount < s.blkIndent))
  item : ∀ {i f f' l l'} (sl ta ta' : Nat) (b ind : Int), F i f f' → V.L l l' → ta' = ta + V.W → l.sCount ≤ b → l.sCount ≤ ind →
    ∃ j, F j (f.enter sl (l.retab ta b) ind) (f'.enter (sl + n) (l'.retab ta' (b + V.W)) (ind + V.W)) ∧
      ∀ {g g' lc lc'}, F j g g' → V.L lc lc' →
        F i (g.leave sl (lc.retab l.tShift l.sCount) f.listIndent) (g'.leave (sl + n) (lc'.retab l'.tShift l'.sCount) f'.listIndent)

theorem lLoop_shift (bs bs' : Nat) (W : Nat) : ∀ (text : List Char) (off : Int) (m : Nat), '\t' ∉ text →
    lLoop bs' (off + W) text m = ((lLoop bs off text m).1 + W, (lLoop bs off text m).2) := by
  intro text off m h
  rw [lLoop_eq_qLoop, lLoop_eq_qLoop, qLoop_spaces _ _ _ _ _ h, qLoop_spaces _ _ _ _ _ h, Int.add_right_comm]

theorem listIndentOf_shift {W : Nat} {l l' : BLine} (hsc : l'.sCount = l.sCount + W) (hb : l'.body = l.body) (ml : Nat) (q : Int × Nat) :
    listIndentOf l' ml (q.1 + W, q.2) = listIndentOf l ml q + W := by
  simp only [listIndentOf, hsc, hb, Int.add_right_comm _ (W : Int), Int.add_sub_add_right]

theorem listIndentOf_ge (l : BLine) (ml : Nat) (q : Int × Nat) (hq : l.sCount + (ml : Int) ≤ q.1) : l.sCount ≤ listIndentOf l ml q := by
  simp only [listIndentOf]
  split <;> split <;> omega

def itemCloseTok (markerChar : Char) (lvl : Int) : Tok :=
  .mk "list_item_close" "li" (-1) [] none (lvl - 1) none "" (String.singleton markerChar) "" [] true false

theorem closeState_tokens (mc : Char) (s1 : BState) (l : BLine) (ntok startLine : Nat) (s3 : BState) (lcur : BLine) :
    (closeState mc s1 l ntok startLine s3 lcur).tokens
      = (s3.tokens ++ [itemCloseTok mc s3.level]).modify ntok (fun t => t.setMap (some (startLine, s3.line))) := rfl

theorem level_close_sh (k : Int) (x x' : BState) (a b c : String) (h : x'.level = x.level + k) :
    (x'.pushFull a b (-1) none none "" c "").level = (x.pushFull a b (-1) none none "" c "").level + k := by
  rw [pushFull_level_close, pushFull_level_close, h]; omega

/-- the `Run` half of `closeState`; the nested run (`h3`) is compared after the opening token -/
theorem Run.close {tt pp k n spre pre} (mc : Char) {s s' : BState} (a b : String) (m0 m0' : Option (Nat × Nat)) (c d e f) (l l' : BLine) (sl : Nat)
    {s3 s3' : BState} (lcur lcur' : BLine) (h : Run tt pp k n spre pre s s')
    (h3 : Run true pp k n (s.pushFull a b 1 m0 c d e f).tokens (s'.pushFull a b 1 m0' c d e f).tokens s3 s3') :
    Run tt pp k n spre pre (closeState mc (s.pushFull a b 1 m0 c d e f) l s.tokens.length sl s3 lcur)
      (closeState mc (s'.pushFull a b 1 m0' c d e f) l' s'.tokens.length (sl + n) s3' lcur') := by
  obtain ⟨ts0, a0, b0⟩ := h.tokens
  obtain ⟨ts3, a3, b3⟩ := h3.tokens
  refine ⟨h3.line, ?_, h.tight, h3.parent, ?_⟩
  · exact level_close_sh k _ _ "list_item_close" "li" (String.singleton mc) h3.level
  · have hc : itemCloseTok mc s3'.level = (itemCloseTok mc s3.level).shift2 k n := by
      simp only [itemCloseTok, Tok.shift2, shiftM, h3.level]; congr 1; omega
    obtain ⟨e1, e2⟩ := container_tokens k n a0 b0 (a3.trans (by rw [pushFull_tokens])) (b3.trans (by rw [pushFull_tokens])) hc
      (setMap_pushed_shift k n s s' h.level a b 1 m0 m0' (some (sl, s3.line)) (some (sl + n, s3'.line)) c d e f (shiftM_some rfl h3.line))
    exact ⟨_, by rw [closeState_tokens]; exact e1, by rw [closeState_tokens]; exact e2⟩

theorem skipBullet_body {l l' : BLine} (h : l'.body = l.body) : skipBullet l' = skipBullet l := by
  unfold skipBullet; rw [h]

theorem skipOrdered_body {l l' : BLine} (h : l'.body = l.body) : skipOrdered l' = skipOrdered l := by
  unfold skipOrdered; rw [h]

/-- two results of the item loop: the same but for `startLine`, `n` lines further down in the second, and states related by `R` -/
def ItemsRel (n : Nat) (R : BState → BState → Prop) (r r' : ListSt) : Prop :=
  r' = { s := r'.s, startLine := r.startLine + n, markerLen := r.markerLen, tight := r.tight, prevEmptyEnd := r.prevEmptyEnd } ∧ R r.s r'.s

theorem shift2_setAttrs (k : Int) (n : Nat) (t : Tok) (a) : (t.setAttrs a).shift2 k n = (t.shift2 k n).setAttrs a := by cases t; rfl

theorem listOpenTok_shift (k : Int) (n : Nat) (s s' : BState) (hl : s'.level = s.level + k) (ordered : Bool) (mc : Char) (mv startLine : Nat)
    (m m' : Option (Nat × Nat)) (hm : m' = shiftM n m) :
    (listOpenTok s' ordered mc mv (startLine + n)).setMap m' = ((listOpenTok s ordered mc mv startLine).setMap m).shift2 k n := by
  unfold listOpenTok
  simp only
  split
  · rw [Tok.setAttrs_setMap, Tok.setAttrs_setMap, shift2_setAttrs, setMap_pushed_shift k n s s' hl _ _ 1 (some (startLine, 0)) (some (startLine + n, 0)) m m' none "" _ "" hm]
  · exact setMap_pushed_shift k n s s' hl _ _ 1 (some (startLine, 0)) (some (startLine + n, 0)) m m' none "" _ "" hm

theorem listOpenState_layout (s : BState) (ordered : Bool) (mc : Char) (mv sl : Nat) : (listOpenState s ordered mc mv sl).layout = s.layout := by
  rw [listOpenState_eq]; rfl

theorem listFinish_layout (s : BState) (ordered : Bool) (mc : Char) (sl : Nat) (st : ListSt) : (listFinish s ordered mc sl st).layout = st.s.layout := by
  rw [listFinish_eq]; rfl

def listCloseTok (ordered : Bool) (mc : Char) (lvl : Int) : Tok :=
  .mk (if ordered then "ordered_list_close" else "bullet_list_close") (if ordered then "ol" else "ul") (-1) [] none (lvl - 1) none ""
    (String.singleton mc) "" [] true false

section run
variable {tt pp : Bool} {k : Int} {n : Nat} {spre pre : List Tok} {s s' : BState}

theorem Run.listEnter {ι : Type} {F : ι → Layout → Layout → Prop} {j : ι} (h : Run tt pp k n spre pre s s') (l l' : BLine) (sl sl' ml : Nat)
    (q q' : Int × Nat) (ind ind' : Int)
    (hE : F j (s.layout.enter sl (l.retab (l.tShift + ml + q.2) q.1) ind) (s'.layout.enter sl' (l'.retab (l'.tShift + ml + q'.2) q'.1) ind')) :
    Rel F j true pp k n spre pre (listEnter s l sl ml q ind) (listEnter s' l' sl' ml q' ind') :=
  ⟨hE, h.line, h.level, fun _ => rfl, h.parent, h.tokens⟩

theorem Run.listOpen (h : Run tt pp k n spre pre s s') (ordered : Bool) (mc : Char) (mv sl : Nat) :
    Run tt true k n (listOpenState s ordered mc mv sl).tokens (listOpenState s' ordered mc mv (sl + n)).tokens
      (listOpenState s ordered mc mv sl) (listOpenState s' ordered mc mv (sl + n)) := by
  rw [listOpenState_eq, listOpenState_eq]
  exact ⟨h.line, by show s'.level + 1 = s.level + 1 + k; rw [h.level]; omega, h.tight, fun _ => rfl, ⟨[], by simp, by simp⟩⟩

theorem Run.listFinish (h : Run tt pp k n spre pre s s') (ordered : Bool) (mc : Char) (mv sl : Nat) (st : ListSt) (rs' : BState)
    (hst : Run tt true k n (listOpenState s ordered mc mv sl).tokens (listOpenState s' ordered mc mv (sl + n)).tokens st.s rs') :
    Run tt pp k n spre pre (MdIt.listFinish s ordered mc sl st)
      (MdIt.listFinish s' ordered mc (sl + n)
        { s := rs', startLine := st.startLine + n, markerLen := st.markerLen, tight := st.tight, prevEmptyEnd := st.prevEmptyEnd }) := by
  obtain ⟨ts0, a0, b0⟩ := h.tokens
  obtain ⟨its, ai, bi⟩ := hst.tokens
  rw [listOpenState_tokens] at ai bi
  have hlv : rs'.level = st.s.level + k := hst.level
  have hc : pushedTok rs' (if ordered then "ordered_list_close" else "bullet_list_close") (if ordered then "ol" else "ul") (-1)
      none none "" (String.singleton mc) "" = (listCloseTok ordered mc st.s.level).shift2 k n := by
    simp only [pushedTok, listCloseTok, Tok.shift2, shiftM, hlv]; congr 1; omega
  -- the token lists before `markTightParagraphs`: `s.tokens ++ seg` and `s'.tokens ++` the shifted `seg`
  obtain ⟨tokS, tokS'⟩ := container_tokens k n a0 b0 ai bi hc (listOpenTok_shift k n s s' h.level ordered mc mv sl
    (some (sl, st.startLine)) (some (sl + n, st.startLine + n)) (shiftM_some rfl rfl))
  rw [List.append_assoc, List.append_assoc ts0, ← List.append_assoc spre, ← a0] at tokS
  rw [List.append_assoc, List.append_assoc ts0, List.map_append, ← List.append_assoc pre, ← b0] at tokS'
  generalize [(listOpenTok s ordered mc mv sl).setMap (some (sl, st.startLine))] ++ (its ++ [listCloseTok ordered mc st.s.level]) = seg at tokS tokS'
  have hlev := level_close_sh k st.s rs' (if ordered then "ordered_list_close" else "bullet_list_close") (if ordered then "ol" else "ul") (String.singleton mc) hlv
  unfold MdIt.listFinish
  simp only
  split
  · -- tight: `markTightParagraphs` on both sides
    refine ⟨rfl, hlev, hst.tight, h.parent, ts0 ++ markTightGo (st.s.level - 1 + 2) seg.length 2 seg, ?_, ?_⟩
    · show markTight _ s.tokens.length (List.modify (st.s.tokens ++ [listCloseTok ordered mc st.s.level]) _ _) = _
      rw [tokS, pushFull_level_close, (markTight_rel k n (st.s.level - 1) s.tokens s'.tokens _).2, a0, List.append_assoc]
    · show markTight _ s'.tokens.length (List.modify (rs'.tokens ++ [pushedTok rs' _ _ _ _ _ _ _ _]) _ _) = _
      rw [tokS', pushFull_level_close, hlv, show st.s.level + k - 1 = st.s.level - 1 + k by omega,
        (markTight_rel k n (st.s.level - 1) s.tokens s'.tokens _).1, b0, List.map_append, List.append_assoc]
  · exact ⟨rfl, hlev, hst.tight, h.parent,
      ts0 ++ seg, by show List.modify (st.s.tokens ++ [listCloseTok ordered mc st.s.level]) _ _ = _; rw [tokS, a0, List.append_assoc],
      by show List.modify (rs'.tokens ++ [pushedTok rs' _ _ _ _ _ _ _ _]) _ _ = _; rw [tokS', b0, List.map_append, List.append_assoc]⟩

end run

section list
variable {V : LinesRel} {n : Nat} {ι : Type} {F : ι → Layout → Layout → Prop} (hF : ListFrame V n F) {k : Int}
  {inner inner' : List BRule} {mn mn' : Int} {endLine : Nat}
  (hin : ∀ {j pp spre pre y y'} (a : Nat), Rel F j true pp k n spre pre y y' →
    Fwd (Rel F j true pp k n spre pre) (blockTokenize inner mn y a endLine) (blockTokenize inner' mn' y' (a + n) (endLine + n)))
include hF hin

theorem listNested_fwd (sl : Nat) (ce : Bool) {j pp spre pre s2 s2'} (h : Rel F j true pp k n spre pre s2 s2') :
    Fwd (Rel F j true pp k n spre pre) (listNested inner mn endLine s2 sl ce) (listNested inner' mn' (endLine + n) s2' (sl + n) ce) := by
  unfold listNested
  rw [show (if ce = true then s2'.isEmpty (((sl + n : Nat) : Int) + 1) else Except.ok false)
      = (if ce = true then s2.isEmpty ((sl : Int) + 1) else Except.ok false) from
    ite_congr rfl (fun _ => (hF.reads h.1).isEmptyI (sl + 1) (by omega) (by omega)) (fun _ => rfl)]
  cases (if ce = true then s2.isEmpty ((sl : Int) + 1) else Except.ok false) with
  | error e => exact Fwd.error
  | ok b =>
    cases b with
    | true => exact Fwd.ok ⟨h.1, h.2.setLineNo _ _ (by rw [h.2.line]; omega)⟩
    | false => exact hin sl h

theorem listItem_fwd (ordered : Bool) (mc : Char) {i tt pp spre pre s s'} (sl ml : Nat) (hsl : V.Rng sl) (h : Rel F i tt pp k n spre pre s s') :
    Fwd (fun x y => y.2 = x.2 ∧ Rel F i tt pp k n spre pre x.1 y.1) (listItem ordered mc inner mn endLine s sl ml)
      (listItem ordered mc inner' mn' (endLine + n) s' (sl + n) ml) := by
  simp only [listItem]
  cases hg : getL s sl with
  | error e => exact Fwd.error
  | ok l =>
    obtain ⟨l', hg', hz⟩ := (hF.reads h.1).getL hsl hg
    have hnb : '\t' ∉ List.drop ml l.body := fun hm => V.notab hz (List.mem_of_mem_drop (List.mem_of_mem_drop hm))
    simp only [hg', V.body hz, V.sc hz, Int.add_right_comm _ (V.W : Int), lLoop_shift l.bs l'.bs V.W _ _ 0 hnb]
    have hqge := C01.lLoop_ge l.bs (List.drop ml l.body) (l.sCount + ml) 0
    generalize lLoop l.bs (l.sCount + ml) (List.drop ml l.body) 0 = q at hqge ⊢
    rw [listIndentOf_shift (V.sc hz) (V.body hz)]
    have h1 := h.2.pushRebase "list_item_open" "li" 1 (some (sl, 0)) (some (sl + n, 0)) none ""
      (String.singleton mc) (if ordered = true then String.ofList (List.take (ml - 1) l.body) else "")
    obtain ⟨j, hE, hL⟩ := hF.item sl (l.tShift + ml + q.2) (l'.tShift + ml + q.2) q.1 (listIndentOf l ml q) h.1 hz
      (by rw [V.tsh hz]; omega) (by omega) (listIndentOf_ge l ml q hqge)
    cases hn : listNested inner mn endLine _ sl (decide ((List.drop ml l.body).length ≤ q.2)) with
    | error e => exact Fwd.error
    | ok s3 =>
      obtain ⟨s3', hn', h3⟩ := listNested_fwd hF hin sl _ (h1.listEnter l l' sl (sl + n) ml q (q.1 + V.W, q.2) _ _ hE) s3 hn
      simp only [hn', listClose_eq]
      have epe : (if s3'.line - (sl + n) > 1 then s3'.isEmpty ((s3'.line : Int) - 1) else Except.ok false)
          = (if s3.line - sl > 1 then s3.isEmpty ((s3.line : Int) - 1) else Except.ok false) :=
        ite_congr (by rw [h3.2.line, Nat.add_sub_add_right])
          (fun _ => (hF.reads h3.1).isEmptyI (s3.line - 1) (by omega) (by rw [h3.2.line]; omega)) (fun _ => rfl)
      rw [epe]
      cases (if s3.line - sl > 1 then s3.isEmpty ((s3.line : Int) - 1) else Except.ok false) with
      | error e => exact Fwd.error
      | ok pe0 =>
        cases hgc : getL s3 sl with
        | error e => exact Fwd.error
        | ok lcur =>
          obtain ⟨lcur', hgc', hzc⟩ := (hF.reads h3.1).getL hsl hgc
          simp only [hgc']
          exact Fwd.ok ⟨by rw [h3.2.tight rfl], hL h3.1 hzc, Run.close mc _ _ _ _ _ _ _ _ l l' sl lcur lcur' h.2 h3.2⟩

variable {Call : Nat → Nat → Prop} {terms terms' : List BRule}
  (hterm : ∀ {i tt spre pre}, ChainFwd Call n (Rel F i tt true k n spre pre) true terms terms')
  (hr : ∀ i, i < endLine → V.Rng i ∧ Call i endLine)

omit hin in
include hterm hr in
theorem listNext_fwd (codeOn ordered : Bool) (mc : Char) {i tt spre pre s6 s6'} (h : Rel F i tt true k n spre pre s6 s6') :
    Fwd (fun x y => y.2 = x.2 ∧ Rel F i tt true k n spre pre x.1 y.1) (listNext codeOn ordered mc terms endLine s6)
      (listNext codeOn ordered mc terms' (endLine + n) s6') := by
  unfold listNext
  rw [h.2.line]
  refine Fwd.ite (by omega) (fun _ => Fwd.ok ⟨rfl, h⟩) (fun hlt => ?_)
  cases hg : getL s6 s6.line with
  | error e => exact Fwd.error
  | ok ln =>
    obtain ⟨ln', hg', hz⟩ := (hF.reads h.1).getL (hr _ (by omega)).1 hg
    simp only [hg', (hF.reads h.1).lt_blk hz, (hF.reads h.1).isCode codeOn hz, skipOrdered_body (V.body hz), skipBullet_body (V.body hz), V.body hz]
    refine Fwd.ite Iff.rfl (fun _ => Fwd.ok ⟨rfl, h⟩) (fun _ => ?_)
    refine Fwd.ite Iff.rfl (fun _ => Fwd.ok ⟨rfl, h⟩) (fun _ => ?_)
    cases hq : runTerminators terms s6 s6.line endLine with
    | error e => exact Fwd.error
    | ok v =>
      obtain ⟨b, s7⟩ := v
      obtain ⟨s7', hq', h7⟩ := (runTerminators_fwd hterm s6.line endLine (hr _ (by omega)).2 h).toRule hq
      simp only [hq']
      cases b with
      | true => exact Fwd.ok ⟨rfl, h7⟩
      | false =>
        cases (if ordered = true then skipOrdered ln else skipBullet ln) with
        | none => exact Fwd.ok ⟨rfl, h7⟩
        | some mlen => exact Fwd.ite Iff.rfl (fun _ => Fwd.ok ⟨rfl, h7⟩) (fun _ => Fwd.ok ⟨rfl, h7⟩)

include hterm hr

theorem listItems_fwd (codeOn ordered : Bool) (mc : Char) : ∀ (fuel : Nat) {i tt spre pre} {s s' : BState} (sl ml : Nat) (tg pe : Bool),
    Rel F i tt true k n spre pre s s' →
    Fwd (ItemsRel n (Rel F i tt true k n spre pre))
      (listItems codeOn ordered mc terms inner mn endLine fuel { s := s, startLine := sl, markerLen := ml, tight := tg, prevEmptyEnd := pe })
      (listItems codeOn ordered mc terms' inner' mn' (endLine + n) fuel
        { s := s', startLine := sl + n, markerLen := ml, tight := tg, prevEmptyEnd := pe }) := by
  intro fuel
  induction fuel with
  | zero => intro i tt spre pre s s' sl ml tg pe _; exact Fwd.error
  | succ f ih =>
    intro i tt spre pre s s' sl ml tg pe h
    rw [listItems_succ, listItems_succ]
    dsimp only
    refine Fwd.ite (by omega) (fun _ => Fwd.ok ⟨rfl, h⟩) (fun hlt => ?_)
    cases hit : listItem ordered mc inner mn endLine s sl ml with
    | error e => exact Fwd.error
    | ok v =>
      obtain ⟨s6, r6⟩ := v
      obtain ⟨⟨s6', r6'⟩, hit', hv, h6⟩ := listItem_fwd hF hin ordered mc sl ml (hr sl (by omega)).1 h _ hit
      obtain rfl : r6 = r6' := hv.symm
      replace h6 : Rel F i tt true k n spre pre s6 s6' := h6
      obtain ⟨nt, pe6⟩ := r6
      simp only [hit']
      cases hnx : listNext codeOn ordered mc terms endLine s6 with
      | error e => exact Fwd.error
      | ok w =>
        obtain ⟨s7, o⟩ := w
        obtain ⟨⟨s7', o'⟩, hnx', hw, h7⟩ := listNext_fwd hF hterm hr codeOn ordered mc h6 _ hnx
        obtain rfl : o = o' := hw.symm
        replace h7 : Rel F i tt true k n spre pre s7 s7' := h7
        simp only [hnx', h6.2.line]
        cases o with
        | none => exact Fwd.ok ⟨rfl, h7⟩
        | some mlen => exact ih s6.line mlen _ pe6 h7

theorem listTail_fwd (codeOn : Bool) {i tt pp spre pre s s'} (line : Nat) (silent : Bool) {l l' : BLine} (ordered : Bool) (mlen : Nat)
    (h : Rel F i tt pp k n spre pre s s') (hsil : silent = true → pp = true) (hz : V.L l l') :
    RuleFwd (Rel F i tt pp k n spre pre) (listTail codeOn terms inner mn s line endLine silent l ordered mlen)
      (listTail codeOn terms' inner' mn' s' (line + n) (endLine + n) silent l' ordered mlen) := by
  have hpar : (silent && s'.parentType == "paragraph" && decide (l'.sCount ≥ s'.blkIndent))
      = (silent && s.parentType == "paragraph" && decide (l.sCount ≥ s.blkIndent)) := by
    cases silent with
    | false => rfl
    | true => simp only [h.2.parent (hsil rfl), V.sc hz, (hF.reads h.1).blkIndent, ge_iff_le, Int.add_le_add_iff_right]
  unfold listTail
  simp only [V.body hz, hpar]
  refine Fwd.ite Iff.rfl (fun _ => .same h) (fun _ => ?_)
  refine Fwd.ite Iff.rfl (fun _ => .same h) (fun _ => ?_)
  cases l.body[mlen - 1]? with
  | none => exact Fwd.error
  | some mc =>
    refine Fwd.ite Iff.rfl (fun _ => .same h) (fun _ => ?_)
    rw [listRun_eq, listRun_eq, Nat.add_sub_add_right]
    cases hit : listItems codeOn ordered mc terms inner mn endLine (endLine - line + 1)
        { s := listOpenState s ordered mc (digitsVal (List.take (mlen - 1) l.body)) line, startLine := line, markerLen := mlen, tight := true, prevEmptyEnd := false } with
    | error e => exact Fwd.error
    | ok st =>
      obtain ⟨st', hit', hst', hst⟩ := listItems_fwd hF hin hterm hr codeOn ordered mc _ line mlen true false
        (⟨by rw [listOpenState_layout, listOpenState_layout]; exact h.1, h.2.listOpen ordered mc _ line⟩ :
          Rel F i tt true k n _ _ (listOpenState s ordered mc (digitsVal (List.take (mlen - 1) l.body)) line) (listOpenState s' ordered mc _ (line + n))) st hit
      rw [hst'] at hit'
      rw [hit']
      exact Fwd.ok ⟨rfl, by rw [listFinish_layout, listFinish_layout]; exact hst.1, h.2.listFinish ordered mc _ line st st'.s hst.2⟩

theorem list_fwd (codeOn : Bool) {i tt pp spre pre s s'} (line : Nat) (silent : Bool) (hl : V.Rng line) (h : Rel F i tt pp k n spre pre s s')
    (hsil : silent = true → pp = true) :
    RuleFwd (Rel F i tt pp k n spre pre) (ruleList codeOn terms inner mn s line endLine silent)
      (ruleList codeOn terms' inner' mn' s' (line + n) (endLine + n) silent) := by
  rw [ruleList_eq, ruleList_eq]
  cases hg : getL s line with
  | error e => exact Fwd.error
  | ok l =>
    obtain ⟨l', hg', hz⟩ := (hF.reads h.1).getL hl hg
    simp only [hg', (hF.reads h.1).isCode codeOn hz, hF.liTest h.1 hz, skipOrdered_body (V.body hz), skipBullet_body (V.body hz)]
    refine Fwd.ite Iff.rfl (fun _ => .same h) (fun _ => ?_)
    refine Fwd.ite Iff.rfl (fun _ => .same h) (fun _ => ?_)
    cases skipOrdered l with
    | some mlen => exact listTail_fwd hF hin hterm hr codeOn line silent true mlen h hsil hz
    | none =>
      cases skipBullet l with
      | some mlen => exact listTail_fwd hF hin hterm hr codeOn line silent false mlen h hsil hz
      | none => exact .same h

end list

theorem TR.toTight {tt pp k n spre pre s s'} (h : TR tt pp k n spre pre s s') (ht : s'.tight = s.tight) : TR true pp k n spre pre s s' :=
  ⟨h.lines, h.len, h.notab, h.line, h.lineMax, h.blkIndent, h.level, h.listIndent, (fun _ => ht), h.parent, h.tokens⟩

theorem zb_retab {l l' : BLine} (hz : zb l' = zb l) (a : Nat) (b : Int) : zb (l'.retab a b) = zb (l.retab a b) := by
  obtain ⟨_, h2, _, h4⟩ := zb_eq hz
  simp [zb, BLine.retab, h2, h4]

theorem Fr.listFrame (n : Nat) : ListFrame zbView n (Fr n) where
  reads := Fr.reads
  liTest {_ s s' _ _} h hz := by
    rw [show s'.blkIndent = s.blkIndent from h.2.2.2.2.1, show s'.listIndent = s.listIndent from h.2.2.2.2.2, (zb_eq hz.1).1]
  item {_ _ _ l _} sl ta ta' b ind h hz hta _ _ := by
    subst hta
    rw [show b + ((zbView.W : Nat) : Int) = b from Int.add_zero b]
    refine ⟨(), h.setLine sl (zb_retab hz.1 ta' b) hz.2 (Int.add_zero ind) h.2.2.2.2.1, fun hg hzc => ?_⟩
    rw [(zb_eq hz.1).2.2.1, (zb_eq hz.1).1]
    exact hg.setLine sl (zb_retab hzc.1 l.tShift l.sCount) hzc.2 hg.2.2.2.2.2 h.2.2.2.2.2

theorem nested_sh {k n} {inner inner' : List BRule} (hin : ShSims k n inner inner') (mn : Int) (endLine : Nat) {j : Unit} {pp spre pre y y'} (a : Nat)
    (h : Rel (Fr n) j true pp k n spre pre y y') :
    Fwd (Rel (Fr n) j true pp k n spre pre) (blockTokenize inner mn y a endLine) (blockTokenize inner' (mn + k) y' (a + n) (endLine + n)) := by
  rw [← TR_eq true pp k n spre pre j] at h ⊢
  exact fun t ht => blockTokenize_sh hin mn a endLine t h ht

theorem terms_sh {k n} {terms terms' : List BRule} (hts : ShSims k n terms terms') {j : Unit} {tt spre pre} :
    ChainFwd (fun _ _ => True) n (Rel (Fr n) j tt true k n spre pre) true terms terms' := by
  rw [← TR_eq tt true k n spre pre j]
  exact hts.chain tt true spre pre true (fun _ => rfl)

theorem listItem_sh {k n} {inner inner' : List BRule} (hin : ShSims k n inner inner') (ordered : Bool) (markerChar : Char) (mn : Int)
    (endLine : Nat) {tt pp spre pre s s'} (startLine markerLen : Nat) (s6 : BState) (nt pe : Bool) (hsr : TR tt pp k n spre pre s s')
    (h : listItem ordered markerChar inner mn endLine s startLine markerLen = .ok (s6, nt, pe)) :
    ∃ s6', listItem ordered markerChar inner' (mn + k) (endLine + n) s' (startLine + n) markerLen = .ok (s6', nt, pe)
      ∧ TR tt pp k n spre pre s6 s6' := by
  rw [TR_eq _ _ _ _ _ _ ()] at hsr ⊢
  obtain ⟨⟨s6', _⟩, h', rfl, h6⟩ := listItem_fwd (Fr.listFrame n) (nested_sh hin mn endLine) ordered markerChar startLine markerLen trivial hsr _ h
  exact ⟨s6', h', h6⟩

theorem sh_list (k : Int) (n : Nat) (codeOn : Bool) {terms terms' inner inner' : List BRule} (hts : ShSims k n terms terms')
    (hin : ShSims k n inner inner') (mn : Int) :
    ShSim k n (ruleList codeOn terms inner mn) (ruleList codeOn terms' inner' (mn + k)) := by
  intro tt pp spre pre s s' line endLine silent m t hsr hsil
  rw [TR_eq _ _ _ _ _ _ ()] at hsr ⊢
  exact (list_fwd (Fr.listFrame n) (nested_sh hin mn endLine) (terms_sh hts) (fun _ _ => ⟨trivial, trivial⟩) codeOn line silent trivial hsr hsil).toRule

theorem lListTerms_shs (k : Int) (n : Nat) (c : MiniCfg) (mn : Int) : ShSims k n (lListTerms c mn) (lListTerms c (mn + k)) := by
  unfold lListTerms
  exact ((ShSims.opt c.fence (sh_fence k n c.code)).append (.cons (sh_quote k n c.code .nil .nil mn) .nil)).append
    (ShSims.opt c.hr (sh_hr k n c.code))

theorem lTerminators_shs (k : Int) (n : Nat) (c : MiniCfg) (ws : List Nat) (mn : Int) :
    ShSims k n (lTerminators c ws mn) (lTerminators c ws (mn + k)) := by
  unfold lTerminators
  exact ((((ShSims.opt c.fence (sh_fence k n c.code)).append (.cons (sh_quote k n c.code .nil .nil mn) .nil)).append
    (ShSims.opt c.hr (sh_hr k n c.code))).append (.cons (sh_list k n c.code .nil .nil mn) .nil)).append
    (ShSims.opt c.heading (sh_heading k n c.code ws))

theorem lChain_shs (k : Int) (n : Nat) (c : MiniCfg) (ws : List Nat) (mn : Int) : ∀ d : Nat,
    ShSims k n (lChain c ws mn d) (lChain c ws (mn + k) d) := by
  intro d
  induction d with
  | zero => exact .nil
  | succ d ih =>
    unfold lChain
    exact ((((((ShSims.opt c.code (sh_code k n c.code)).append (ShSims.opt c.fence (sh_fence k n c.code))).append
      (.cons (sh_quote k n c.code (lTerminators_shs k n c ws mn) ih mn) .nil)).append (ShSims.opt c.hr (sh_hr k n c.code))).append
      (.cons (sh_list k n c.code (lListTerms_shs k n c mn) ih mn) .nil)).append
      (ShSims.opt c.heading (sh_heading k n c.code ws))).append (.cons (sh_paragraph k n (lTerminators_shs k n c ws mn) ws) .nil)

/-- **C07.l_quote_law** (with lists inside the quoted document) — for every document `D` given by its lines (no tab, CR, NUL or
line feed inside a line; at least one line), every subset of `code`, `fence`, `hr`, `heading` and every `maxNesting ≥ 0`: prefixing
every line of `D` with `"> "` (`">"` for an empty line) parses, with one more level of nesting allowed, to exactly one block quote
spanning all lines whose content is the token stream of `D` one level deeper — everything the same but `level`. -/
theorem l_quote_law (c : MiniCfg) (ws : List Nat) (mn : Int) (hmn : 0 ≤ mn) (ls : List (List Char)) (hne : ls ≠ [])
    (hcl : ∀ l ∈ ls, Clean l) (tsD : List Tok) (hD : lParse c ws mn (srcOf ls) = .ok tsD) :
    lParse c ws (mn + 1) (srcOf (ls.map quoteLine)) = .ok (quoteOpen ls.length :: tsD.map (Tok.shift 1) ++ [quoteClose]) := by
  obtain ⟨hok, hinner⟩ := C01.lChain_ok c ws mn (mn.toNat + 1)
  unfold lParse
  rw [show (mn + 1).toNat + 1 = (mn.toNat + 1) + 1 by omega]
  unfold lChain
  simp only [List.append_assoc, List.singleton_append]
  exact quote_law_of c hmn hne hcl hok hinner ((lChain_shs 1 0 c ws mn (mn.toNat + 1)).nested mn) hD

/-- **C07.l_suffix_shift** — with lists as well as block quotes in `B` (the full modelled sub-parser): for every document `B` given
by its lines (no tab, CR, NUL, LF inside a line; at least one line), every subset of `code`, `fence`, `hr`, `heading`, every
`maxNesting`: once the top-level loop of a parse stands at the first line of `B`, `n` lines into the table — whatever those `n`
lines contain, whatever tokens, `tight`, `parentType` and `hasEmptyLines` the blocks before left behind, with any sufficient fuel —
it returns, and what it appends is exactly the token stream of `B` parsed on its own, every map shifted by `n`. -/
theorem l_suffix_shift (c : MiniCfg) (ws : List Nat) (mn : Int) (lsB : List (List Char)) (hne : lsB ≠ []) (hcl : ∀ l ∈ lsB, Clean l)
    (n : Nat) (s' : BState) (hs : AtSeam n lsB s') (tsB : List Tok) (hB : lParse c ws mn (srcOf lsB) = .ok tsB)
    (f : Nat) (hf : lsB.length + 1 ≤ f) (he : Bool) :
    ∃ t', blockLoop (lChain c ws mn (mn.toNat + 1)) mn (lsB.length + n) f n he s' = .ok t'
      ∧ t'.tokens = s'.tokens ++ tsB.map (Tok.shift2 0 n) :=
  suffix_shift_of (by simpa using lChain_shs 0 n c ws mn (mn.toNat + 1)) mn lsB hne hcl s' hs tsB hB f hf he

/-- the same for a whole document `A ++ B`: if the top-level loop of its parse comes to stand at the first line of `B` (an
iteration of the loop starts there — "A ends closed, B begins a new top-level block"), the stream of the document is what the
loop had produced by then followed by the stream of `B` alone, maps shifted by the number of lines of `A` -/
theorem l_concat_law (c : MiniCfg) (ws : List Nat) (mn : Int) (lsA lsB : List (List Char)) (hne : lsB ≠ [])
    (hclA : ∀ l ∈ lsA, Clean l) (hclB : ∀ l ∈ lsB, Clean l) (tsB : List Tok) (hB : lParse c ws mn (srcOf lsB) = .ok tsB)
    (f : Nat) (he : Bool) (sM : BState) (hf : lsB.length + 1 ≤ f) (hM : AtSeam lsA.length lsB sM)
    (hseam : blockLoop (lChain c ws mn (mn.toNat + 1)) mn (lsA ++ lsB).length ((lsA ++ lsB).length - 0 + 1) 0 false (stD (lsA ++ lsB))
      = blockLoop (lChain c ws mn (mn.toNat + 1)) mn (lsA ++ lsB).length f lsA.length he sM) :
    lParse c ws mn (srcOf (lsA ++ lsB)) = .ok (sM.tokens ++ tsB.map (Tok.shift2 0 lsA.length)) :=
  concat_law_of (by simpa using lChain_shs 0 lsA.length c ws mn (mn.toNat + 1)) mn lsB hne hclA hclB tsB hB f he sM hf hM hseam

def demoL : List (List Char) := ["- a".toList, "  > q".toList, "".toList, "  b".toList, "- c".toList, "".toList, "3. x".toList, "lazy".toList]

example : demoL ≠ [] ∧ (∀ l ∈ demoL, Clean l) := by
  refine ⟨by decide, ?_⟩
  intro l hl
  simp only [demoL, List.mem_cons, List.not_mem_nil, or_false] at hl
  rcases hl with rfl | rfl | rfl | rfl | rfl | rfl | rfl | rfl <;> (unfold Clean; decide)

example : AtSeam 2 demoL { (stD (["# h".toList, "".toList] ++ demoL)) with line := 2, tight := true, parentType := "paragraph", tokens := [quoteClose] } := by
  refine ⟨by decide, by decide, rfl, by decide, rfl, rfl, rfl⟩

example : shape (lParse ⟨true, true, true, true⟩ [32, 9, 10] 20 (srcOf (["# h".toList, "".toList] ++ demoL)))
    = (do let a ← shape (lParse ⟨true, true, true, true⟩ [32, 9, 10] 20 (srcOf ["# h".toList, "".toList]))
          let b ← shape ((lParse ⟨true, true, true, true⟩ [32, 9, 10] 20 (srcOf demoL)).map (List.map (Tok.shift2 0 2)))
          pure (a ++ b)) := by decide +kernel

example : shape (lParse ⟨true, true, true, true⟩ [32, 9, 10] 21 (srcOf (demoL.map quoteLine)))
    = (do let b ← shape ((lParse ⟨true, true, true, true⟩ [32, 9, 10] 20 (srcOf demoL)).map (List.map (Tok.shift 1)))
          pure ([("blockquote_open", some (0, 8), (0 : Int))] ++ b ++ [("blockquote_close", none, 0)])) := by decide +kernel

section
open MdIt.C10

theorem tChain_restricts (ext : IExt) (lx : LExt) (c : TCfg) (h0 : c.table = false) (h1 : c.reference = false) (h2 : c.htmlBlock = false)
    (h3 : c.lheading = false) (ws : List Nat) (mn : Int) (d : Nat) : tChain ext lx c ws mn d = lChain c.toMiniCfg ws mn d := by
  rw [tChain_off ext lx c h0, rChain_off ext lx c.toRCfg h1, mChain_off c.toMCfg h2 h3]

theorem t_suffix_shift (ext : IExt) (lx : LExt) (c : TCfg) (h0 : c.table = false) (h1 : c.reference = false) (h2 : c.htmlBlock = false)
    (h3 : c.lheading = false) (ws : List Nat) (mn : Int) (lsB : List (List Char)) (hne : lsB ≠ []) (hcl : ∀ l ∈ lsB, Clean l)
    (n : Nat) (s' : BState) (hs : AtSeam n lsB s') (tsB : List Tok) (hB : tokensOf (tParse ext lx c ws mn (srcOf lsB)) = .ok tsB)
    (f : Nat) (hf : lsB.length + 1 ≤ f) (he : Bool) :
    ∃ t', blockLoop (tChain ext lx c ws mn (mn.toNat + 1)) mn (lsB.length + n) f n he s' = .ok t'
      ∧ t'.tokens = s'.tokens ++ tsB.map (Tok.shift2 0 n) := by
  rw [tParse_restricts ext lx c h0 h1 h2 h3] at hB
  rw [tChain_restricts ext lx c h0 h1 h2 h3]
  exact l_suffix_shift c.toMiniCfg ws mn lsB hne hcl n s' hs tsB hB f hf he

theorem t_concat_law (ext : IExt) (lx : LExt) (c : TCfg) (h0 : c.table = false) (h1 : c.reference = false) (h2 : c.htmlBlock = false)
    (h3 : c.lheading = false) (ws : List Nat) (mn : Int) (lsA lsB : List (List Char)) (hne : lsB ≠ [])
    (hclA : ∀ l ∈ lsA, Clean l) (hclB : ∀ l ∈ lsB, Clean l) (tsB : List Tok) (hB : tokensOf (tParse ext lx c ws mn (srcOf lsB)) = .ok tsB)
    (f : Nat) (he : Bool) (sM : BState) (hf : lsB.length + 1 ≤ f) (hM : AtSeam lsA.length lsB sM)
    (hseam : blockLoop (tChain ext lx c ws mn (mn.toNat + 1)) mn (lsA ++ lsB).length ((lsA ++ lsB).length - 0 + 1) 0 false (stD (lsA ++ lsB))
      = blockLoop (tChain ext lx c ws mn (mn.toNat + 1)) mn (lsA ++ lsB).length f lsA.length he sM) :
    tokensOf (tParse ext lx c ws mn (srcOf (lsA ++ lsB))) = .ok (sM.tokens ++ tsB.map (Tok.shift2 0 lsA.length)) := by
  rw [tParse_restricts ext lx c h0 h1 h2 h3] at hB ⊢
  rw [tChain_restricts ext lx c h0 h1 h2 h3] at hseam
  exact l_concat_law c.toMiniCfg ws mn lsA lsB hne hclA hclB tsB hB f he sM hf hM hseam

end

end MdIt.C07
