import MdIt.Props.C01h
import MdIt.Proofs.BlockTable
/-!
# C01 (continued) — the `table` rule keeps the block contract

What the rule decides before touching the state (`tableHead`) never raises when the loop calls it: the read of the *second* line is
guarded by `startLine + 2 > endLine`.  The row loop pushes some rows, stops inside the range, and raises only for lack of fuel.  So a
call is a miss, or returns the state at a later line with `tableToks` appended (`table_run`): the form of a leaf rule, off which K1–K4
are read.  As a terminator the rule answers without touching the state whenever the range ends inside the line tables — *not* for an
arbitrary `endLine` (it reads line `startLine + 1`), hence `SilentInertE`.  `t_total` is about `tChain` with `reference` off (ten
rules, `table` among them — not `rChain`, the ten rules without `table`).
-/
namespace MdIt.C01

theorem pushT_lines (s : BState) (a b : String) (n : Int) (at_ m c d) : (s.pushT a b n at_ m c d).lines = s.lines := rfl
theorem pushT_level_open (s : BState) (a b : String) (at_ m c d) : (s.pushT a b 1 at_ m c d).level = s.level + 1 := by
  rw [pushT_open]; rfl
theorem pushT_level_zero (s : BState) (a b : String) (at_ m c d) : (s.pushT a b 0 at_ m c d).level = s.level := by
  rw [pushT_leaf]; exact Int.add_zero _
theorem pushT_level_close (s : BState) (a b : String) (at_ m c d) : (s.pushT a b (-1) at_ m c d).level = s.level - 1 := by
  rw [pushT_close]; rfl

/-- what the pushes of the table rule leave alone: everything but `tokens` and `level` -/
def SameTables (s s' : BState) : Prop :=
  s'.lines = s.lines ∧ s'.listIndent = s.listIndent ∧ s'.lineMax = s.lineMax ∧ s'.blkIndent = s.blkIndent ∧ s'.line = s.line
    ∧ s'.parentType = s.parentType ∧ s'.refs = s.refs ∧ s'.dups = s.dups

theorem pushCells_same (ws : List Nat) (o c t : String) (line : Nat) (cols : List (List Char)) (as : List String) (i : Nat) (s : BState) :
    SameTables s (pushCells ws o c t line cols as i s) ∧ (pushCells ws o c t line cols as i s).level = s.level := by
  rw [pushCells_eq]
  exact ⟨⟨rfl, rfl, rfl, rfl, rfl, rfl, rfl, rfl⟩, Int.add_zero _⟩

theorem tableHead_ok (codeOn : Bool) (ws : List Nat) (s : BState) (line endLine : Nat) (hlen : endLine < s.lines.length) :
    ∃ r, tableHead codeOn ws s line endLine = .ok r := by
  fun_cases tableHead codeOn ws s line endLine
  -- the two lines the rule reads are inside the line tables
  case case2 | case7 => have := getL_error ‹getL s _ = Except.error _›; omega
  all_goals exact ⟨_, rfl⟩

theorem tableHead_spec {codeOn : Bool} {ws : List Nat} {s : BState} {line endLine : Nat} {aligns : List String} {cols : List (List Char)}
    (h : tableHead codeOn ws s line endLine = .ok (some (aligns, cols))) :
    line + 2 ≤ endLine ∧ ∃ l1 l0, getL s (line + 1) = .ok l1 ∧ getL s line = .ok l0 ∧
      alignsGo ws (splitOnCh '|' l1.body []).length 0 (splitOnCh '|' l1.body []) = some aligns ∧
      (pyStrip ws l0.body).contains '|' = true ∧ cols = popEnds (escSplitGo (pyStrip ws l0.body) false []) ∧
      cols.length = aligns.length ∧ 0 < cols.length := by
  revert h
  fun_cases tableHead codeOn ws s line endLine
  all_goals intro h
  case case11 =>  -- the last branch, the one that accepts: every test of `tableHead` has passed
    simp only [Except.ok.injEq, Option.some.injEq, Prod.mk.injEq] at h
    obtain ⟨rfl, rfl⟩ := h
    have hn := ‹¬(_ == 0 || _ != _) = true›
    have hp := ‹¬(!_) = true›
    simp only [Bool.or_eq_true, beq_iff_eq, bne_iff_ne, ne_eq, not_or, Decidable.not_not] at hn
    rw [Bool.not_eq_true, Bool.not_eq_false'] at hp
    exact ⟨by omega, _, _, ‹_›, ‹_›, ‹_›, hp, rfl, hn.2, by omega⟩
  all_goals cases h

/-- the `tbody_open` push in front of the first body row -/
def openBody (startLine next : Nat) (s : BState) : BState :=
  if next == startLine + 2 then s.pushT "tbody_open" "tbody" 1 [] (some (startLine + 2, 0)) none "" else s

def pushRow (ws : List Nat) (aligns : List String) (next : Nat) (cols : List (List Char)) (s : BState) : BState :=
  (pushCells ws "td_open" "td_close" "td" next cols aligns 0 (s.pushT "tr_open" "tr" 1 [] (some (next, next + 1)) none "")).pushT
    "tr_close" "tr" (-1) [] none none ""

theorem pushRow_eq (ws : List Nat) (aligns : List String) (next : Nat) (cols : List (List Char)) (s : BState) :
    pushRow ws aligns next cols s = s.add (rowToks ws "td_open" "td_close" "td" aligns s.level next cols) 0 := by
  simp only [pushRow, rowToks, pushT_open, pushCells_eq, pushT_close, BState.add_add, BState.add_level, Int.add_zero]
  rfl

/-- the state after the body loop, started at line `next ≥ startLine + 2` in state `s`, has pushed the rows with the cells `rows` -/
def bodyState (ws : List Nat) (aligns : List String) (startLine next : Nat) (rows : List (List (List Char))) (s : BState) : BState :=
  if next = startLine + 2 ∧ rows ≠ [] then
    s.add (tokAt s.level "tbody_open" "tbody" 1 [] (some (startLine + 2, 0)) none "" :: rowsToks ws aligns (s.level + 1) next rows) 1
  else s.add (rowsToks ws aligns s.level next rows) 0

/-- a result of the body loop, started with `fuel` at line `next` in state `s`: some rows pushed, ending inside the range if it started
    there; an exception only for lack of fuel.  The cells of a row are arbitrary: nothing proved of a table depends on cell content -/
def BodyRes (ws : List Nat) (aligns : List String) (startLine endLine fuel next : Nat) (s : BState) : Except PyErr (Nat × BState) → Prop
  | .ok (r, s') => (next ≤ endLine → r ≤ endLine) ∧ ∃ rows, r = next + rows.length ∧ s' = bodyState ws aligns startLine next rows s
  | .error _ => fuel ≤ endLine - next

theorem BodyRes.step {ws : List Nat} {aligns : List String} {startLine endLine n next : Nat} {s : BState} {cols : List (List Char)}
    {res : Except PyErr (Nat × BState)}
    (h : BodyRes ws aligns startLine endLine n (next + 1) (pushRow ws aligns next cols (openBody startLine next s)) res)
    (hlt : next < endLine) (hge : startLine + 2 ≤ next) : BodyRes ws aligns startLine endLine (n + 1) next s res := by
  cases res with
  | error e => have : n ≤ endLine - (next + 1) := h; show n + 1 ≤ endLine - next; omega
  | ok p =>
    obtain ⟨r, s'⟩ := p
    obtain ⟨h1, rows, rfl, rfl⟩ : (next + 1 ≤ endLine → r ≤ endLine) ∧ ∃ rows : List (List (List Char)), r = next + 1 + rows.length ∧
      s' = bodyState ws aligns startLine (next + 1) rows (pushRow ws aligns next cols (openBody startLine next s)) := h
    refine ⟨fun _ => h1 hlt, cols :: rows, by rw [List.length_cons]; omega, ?_⟩
    rw [show bodyState ws aligns startLine (next + 1) rows _ = _ from if_neg (fun h => by omega), pushRow_eq]
    unfold bodyState openBody
    by_cases hq : next = startLine + 2
    · rw [if_pos (beq_iff_eq.mpr hq), if_pos (And.intro hq (List.cons_ne_nil cols rows)), pushT_open]
      simp only [BState.add_add, BState.add_level, Int.add_zero, rowsToks, List.cons_append, List.nil_append]
    · rw [if_neg (fun h => hq (beq_iff_eq.mp h)), if_neg (fun h : _ ∧ _ => hq h.1)]
      simp only [BState.add_add, BState.add_level, Int.add_zero, rowsToks]

theorem tableBody_rows (codeOn : Bool) (terms : List BRule) (hin : ∀ t ∈ terms, SilentInert t) (ws : List Nat) (aligns : List String)
    (startLine endLine : Nat) :
    ∀ (fuel next : Nat) (s : BState), endLine < s.lines.length → startLine + 2 ≤ next →
      BodyRes ws aligns startLine endLine fuel next s (tableBody codeOn terms ws aligns startLine endLine fuel next s) := by
  have key : ∀ (s : BState) (next : Nat) r, runTerminators terms s next endLine = r → next < s.lines.length → ∃ b, r = .ok (b, s) :=
    fun s next r hr hn => hr ▸ runTerminators_inert terms hin s next endLine hn
  have stop : ∀ (next : Nat) (s : BState), (next ≤ endLine → next ≤ endLine) ∧ ∃ rows : List (List (List Char)), next = next + rows.length ∧
      s = bodyState ws aligns startLine next rows s :=
    fun next s => ⟨id, [], rfl, by simp [bodyState, rowsToks, BState.add]⟩
  intro fuel next s
  fun_induction tableBody codeOn terms ws aligns startLine endLine fuel next s
  all_goals intro hlen hge
  case case1 => exact Nat.zero_le _  -- out of fuel
  case case2 => have := getL_error ‹getL _ _ = .error _›; omega  -- line not in the tables
  case case3 | case10 => exact stop _ _  -- an outdented line; the end of the range
  -- the other paths have run the terminators, which answer and return the state (so not `case4`, where they raise)
  all_goals obtain ⟨b, hb⟩ := key _ _ _ ‹runTerminators terms _ _ _ = _› (by omega)
  all_goals cases hb
  case case6 => have := getL_error ‹getL _ _ = .error _›; omega  -- line not in the tables
  case case5 | case7 | case8 => exact stop _ _  -- a terminator matches; a blank line; a code-indented line
  case case9 ih =>  -- a row
    refine BodyRes.step (ih ?_ (by omega)) ‹_ < endLine› hge
    show endLine < (pushRow ws aligns _ _ (openBody startLine _ _)).lines.length
    rw [pushRow_eq]; unfold openBody; split <;> exact hlen

theorem tableBody_ok (codeOn : Bool) (terms : List BRule) (hin : ∀ t ∈ terms, SilentInert t) (ws : List Nat) (aligns : List String)
    (startLine endLine : Nat) :
    ∀ (fuel next : Nat) (s : BState), endLine - next < fuel → next ≤ endLine → startLine + 2 ≤ next → endLine < s.lines.length →
      ∃ r s', tableBody codeOn terms ws aligns startLine endLine fuel next s = .ok (r, s') ∧ next ≤ r ∧ r ≤ endLine ∧ SameTables s s' ∧
        s'.level = s.level + (if next = startLine + 2 ∧ next < r then 1 else 0) := by
  intro fuel next s hf hle hge hlen
  have := tableBody_rows codeOn terms hin ws aligns startLine endLine fuel next s hlen hge
  match h : tableBody codeOn terms ws aligns startLine endLine fuel next s, this with
  | .ok (r, s'), ⟨h2, rows, hr, hs⟩ =>
    refine ⟨r, s', rfl, by omega, h2 hle, ?_⟩
    subst hs
    unfold bodyState
    by_cases hq : next = startLine + 2 ∧ rows ≠ []
    · rw [if_pos hq, if_pos ⟨hq.1, by have := List.length_pos_iff.mpr hq.2; omega⟩]
      exact ⟨⟨rfl, rfl, rfl, rfl, rfl, rfl, rfl, rfl⟩, rfl⟩
    · rw [if_neg hq, if_neg (fun h => hq ⟨h.1, fun he => by rw [he] at hr; simp at hr; omega⟩)]
      exact ⟨⟨rfl, rfl, rfl, rfl, rfl, rfl, rfl, rfl⟩, rfl⟩
  | .error _, h1 => have : fuel ≤ endLine - next := h1; omega

/-- the state after the header: `table_open thead_open tr_open (th_open inline th_close)* tr_close thead_close` -/
def pushHead (ws : List Nat) (line : Nat) (aligns : List String) (cols : List (List Char)) (s : BState) : BState :=
  ((pushCells ws "th_open" "th_close" "th" line cols aligns 0 (((({ s with parentType := "table" }).pushT "table_open" "table" 1 []
    (some (line, 0)) none "").pushT "thead_open" "thead" 1 [] (some (line, line + 1)) none "").pushT "tr_open" "tr" 1 []
    (some (line, line + 1)) none "")).pushT "tr_close" "tr" (-1) [] none none "").pushT "thead_close" "thead" (-1) [] none none ""

theorem pushHead_eq (ws : List Nat) (line : Nat) (aligns : List String) (cols : List (List Char)) (s : BState) :
    pushHead ws line aligns cols s = ({ s with parentType := "table" } : BState).add
      (tokAt s.level "table_open" "table" 1 [] (some (line, 0)) none "" :: headToks ws aligns (s.level + 1) line cols) 1 := by
  simp only [pushHead, headToks, rowToks, pushT_open, pushCells_eq, pushT_close, BState.add_add, BState.add_level, Int.add_zero, Int.add_assoc,
    Int.reduceAdd, List.cons_append, List.nil_append, List.append_assoc]

/-- the closing pushes after the body loop has stopped at line `next` in state `s7`: `tbody_close` if there was a row, `table_close`,
    and the maps of `table_open` (at `ntok`) and `tbody_open` (at `tbodyIdx`) filled in -/
def closeTable (line ntok tbodyIdx : Nat) (old : String) (next : Nat) (s7 : BState) : BState :=
  let hasBody := decide (next > line + 2)
  let s9 := (if hasBody then s7.pushT "tbody_close" "tbody" (-1) [] none none "" else s7).pushT "table_close" "table" (-1) [] none none ""
  let toks1 := s9.tokens.modify ntok (fun t => t.setMap (some (line, next)))
  { s9 with tokens := if hasBody then toks1.modify tbodyIdx (fun t => t.setMap (some (line + 2, next))) else toks1,
            parentType := old, line := next }

/-- without body rows; `x` is the `table_open` token -/
theorem closeTable_head (line : Nat) (s : BState) (pt : String) (x : Tok) (h : List Tok) (idx r : Nat) (hr : ¬ r > line + 2) :
    closeTable line s.tokens.length idx s.parentType r (({ s with parentType := pt } : BState).add (x :: h) 1)
      = { s with line := r, tokens := s.tokens ++ x.setMap (some (line, r)) :: (h ++ [tokAt (s.level + 1) "table_close" "table" (-1) [] none none ""]) } := by
  unfold closeTable
  simp only [hr, decide_false, Bool.false_eq_true, if_false, pushT_close, BState.add_add, BState.add_level, BState.add_tokens, Int.reduceAdd, List.cons_append]
  exact BState.add_close s pt _ _ _ r (modify_append_len ..)

/-- with body rows; `y` is the `tbody_open` token, `h` the header in front of it -/
theorem closeTable_body (line : Nat) (s : BState) (pt : String) (x y : Tok) (h b : List Tok) (r : Nat) (hr : r > line + 2) :
    closeTable line s.tokens.length (s.tokens.length + (h.length + 1)) s.parentType r
        (({ s with parentType := pt } : BState).add (x :: (h ++ y :: b)) 2)
      = { s with line := r, tokens := s.tokens ++ x.setMap (some (line, r)) :: (h ++ y.setMap (some (line + 2, r)) :: (b ++
          [tokAt (s.level + 2) "tbody_close" "tbody" (-1) [] none none "", tokAt (s.level + 1) "table_close" "table" (-1) [] none none ""])) } := by
  unfold closeTable
  simp only [hr, decide_true, if_true, pushT_close, BState.add_add, BState.add_level, BState.add_tokens, Int.reduceAdd, List.cons_append, List.append_assoc,
    List.nil_append]
  exact BState.add_close s pt _ _ _ r (modify_two ..)

theorem table_run (codeOn : Bool) (terms : List BRule) (hin : ∀ t ∈ terms, SilentInert t) (ws : List Nat)
    (s : BState) (line endLine : Nat) (hlen : endLine < s.lines.length) :
    ruleTable codeOn terms ws s line endLine false = .ok (false, s) ∨
    ∃ aligns cols rows, tableHead codeOn ws s line endLine = .ok (some (aligns, cols)) ∧ line + 2 + rows.length ≤ endLine ∧
      ruleTable codeOn terms ws s line endLine false = .ok (true, { s with
        line := line + 2 + rows.length,
        tokens := s.tokens ++ tableToks ws s.level line aligns cols rows (line + 2 + rows.length) (line + 2 + rows.length) }) := by
  obtain ⟨r, hr⟩ := tableHead_ok codeOn ws s line endLine hlen
  unfold ruleTable
  rw [hr]
  cases r with
  | none => exact .inl rfl
  | some p =>
    obtain ⟨aligns, cols⟩ := p
    have hge2 := (tableHead_spec hr).1
    have hbody := tableBody_rows codeOn terms hin ws aligns line endLine (endLine - line + 1) (line + 2) (pushHead ws line aligns cols s)
      (by rw [pushHead_eq]; exact hlen) (Nat.le_refl _)
    match hb : tableBody codeOn terms ws aligns line endLine (endLine - line + 1) (line + 2) (pushHead ws line aligns cols s), hbody with
    | .error _, h1 => have : endLine - line + 1 ≤ endLine - (line + 2) := h1; omega
    | .ok (r, s7), ⟨h2, rows, hr', hs⟩ =>
      refine .inr ⟨aligns, cols, rows, rfl, by have := h2 hge2; omega, ?_⟩
      unfold pushHead at hb
      dsimp only [Bool.false_eq_true, if_false]
      rw [hb]
      show Except.ok (true, closeTable line s.tokens.length (pushHead ws line aligns cols s).tokens.length s.parentType r s7) = _
      subst hr' hs
      rw [pushHead_eq]
      unfold bodyState
      cases rows with
      | nil =>
        rw [if_neg (fun h => absurd rfl (And.right h)), rowsToks, BState.add_add, List.append_nil, Int.add_zero, List.length_nil, Nat.add_zero,
          closeTable_head _ _ _ _ _ _ _ (Nat.lt_irrefl _)]
        simp only [tableToks, bodyToks, tokAt_setMap, List.append_nil]
      | cons c cs =>
        rw [if_pos ⟨rfl, List.cons_ne_nil _ _⟩, BState.add_add, BState.add_level, BState.add_tokens, List.length_append, List.length_cons, List.cons_append,
          show (1 : Int) + 1 = 2 from rfl, closeTable_body _ _ _ _ _ _ _ _ (by rw [List.length_cons]; omega)]
        simp only [tableToks, bodyToks, tokAt_setMap, List.append_assoc, List.cons_append, List.nil_append, Int.add_assoc, Int.reduceAdd]

theorem table_leaf (P : BState → Nat → Prop) (codeOn : Bool) (terms : List BRule) (hin : ∀ t ∈ terms, SilentInert t) (ws : List Nat) :
    BlockLeaf P [] (fun s line endLine n seg => n ≤ endLine ∧ ∃ aligns cols rows, tableHead codeOn ws s line endLine = .ok (some (aligns, cols)) ∧
      n = line + 2 + rows.length ∧ seg = tableToks ws s.level line aligns cols rows n n) (ruleTable codeOn terms ws) := by
  intro s line endLine hc
  rcases table_run codeOn terms hin ws s line endLine (by have := hc.len; have := hc.le; omega) with h | ⟨aligns, cols, rows, hh, hr, h⟩
  · exact .inl ⟨_, List.mem_cons_self, h⟩
  · exact .inr ⟨_, _, h, by omega, Nat.le_trans hr hc.le, hr, aligns, cols, rows, hh, rfl, rfl⟩

theorem table_shape (P : BState → Nat → Prop) (codeOn : Bool) (terms : List BRule) (hin : ∀ t ∈ terms, SilentInert t) (ws : List Nat)
    (s : BState) (line endLine : Nat) (hc : CallCtx P s line endLine) :
    ruleTable codeOn terms ws s line endLine false = .ok (false, s) ∨
    ∃ s', ruleTable codeOn terms ws s line endLine false = .ok (true, s') ∧ s.FrameEq s' ∧ line + 2 ≤ s'.line ∧ s'.line ≤ endLine ∧
      s'.parentType = s.parentType ∧ s'.refs = s.refs ∧ s'.dups = s.dups :=
  (table_run codeOn terms hin ws s line endLine (by have := hc.len; have := hc.le; omega)).imp id
    fun ⟨_, _, _, _, hr, h⟩ => ⟨_, h, ⟨⟨rfl, rfl⟩, rfl, rfl, rfl⟩, Nat.le_add_right _ _, hr, rfl, rfl, rfl⟩

theorem ruleOK_table (P : BState → Nat → Prop) (codeOn : Bool) (terms : List BRule) (hin : ∀ t ∈ terms, SilentInert t) (ws : List Nat) :
    RuleOK P (ruleTable codeOn terms ws) := (table_leaf P codeOn terms hin ws).ruleOK

theorem table_silent_ok (codeOn : Bool) (terms : List BRule) (ws : List Nat) : SilentInertE (ruleTable codeOn terms ws) := by
  intro s line endLine _ hlen
  obtain ⟨r, hr⟩ := tableHead_ok codeOn ws s line endLine hlen
  unfold ruleTable
  rw [hr]
  cases r with
  | none => exact ⟨false, rfl⟩
  | some p => exact ⟨true, rfl⟩

theorem tParaTerms_inertE (c : TCfg) (ws : List Nat) (mn : Int) : ∀ t ∈ tParaTerms c ws mn, SilentInertE t := by
  simp only [tParaTerms, List.forall_mem_append, forall_mem_opt]
  exact ⟨fun _ => table_silent_ok _ _ _, inertE_of_inert (mTerminators_inert c.toMCfg ws mn)⟩

theorem ruleOK_tLeaves (c : TCfg) (ws : List Nat) (mn : Int) (P : BState → Nat → Prop) : ∀ r ∈ C10.tLeaves c ws mn, RuleOK P r :=
  C10.forall_tLeaves (fun _ => ruleOK_table _ _ _ (mTerminators_inert c.toMCfg ws mn) ws)
    (ruleOK_leavesM P c.toMCfg (tParaTerms_inertE c ws mn) ws)

theorem tTower (ext : IExt) (lx : LExt) (c : TCfg) (hnr : c.reference = false) (ws : List Nat) (mn : Int) :
    Tower mn (C10.tLeaves c ws mn) true (tChain ext lx c ws mn) where
  zero := rfl
  rule d r h := by
    rcases C10.mem_tChain ext lx c hnr ws mn d r h with h | rfl | rfl
    · exact .leaf h
    · exact .quote _ (mTerminators_inert c.toMCfg ws mn)
    · exact .list _ rfl (mListTerms_inert c.toMCfg mn)
  leaf_ok := ruleOK_tLeaves c ws mn
  last d P := ⟨ruleParagraph (tParaTerms c ws mn) ws, by simp [tChain], paragraph_alwaysE _ _ (tParaTerms_inertE c ws mn) ws⟩

/-- `hnr`: the `reference` rule, whose K3 bound is not proved, is switched off -/
theorem tChain_ok (ext : IExt) (lx : LExt) (c : TCfg) (hnr : c.reference = false) (ws : List Nat) (mn : Int) : ∀ d : Nat,
    (∀ r ∈ tChain ext lx c ws mn d, RuleOK (Lv mn d) r) ∧ InnerOK mn d (tChain ext lx c ws mn d) :=
  tower_ok (tTower ext lx c hnr ws mn) fun _ => ruleOK_list mn

/-- **C01.t_total** — ten of the eleven block rules, the `table` rule included (in the main chain and as a terminator of `paragraph` and
`lheading`), containers nested to any depth: for every source, rule subset, `html` option, white-space table and `maxNesting` the
modelled block parse returns -/
theorem t_total (ext : IExt) (lx : LExt) (c : TCfg) (hnr : c.reference = false) (ws : List Nat) (maxNesting : Int) (src : List Char) :
    ∃ s, tParse ext lx c ws maxNesting src = .ok s :=
  parse_total maxNesting _ (tChain_ok ext lx c hnr ws maxNesting _).2 src

def stateTypes (r : Except PyErr BState) : Option (List String × Nat) :=
  match r with
  | .ok s => some (s.tokens.map Tok.type, s.line)
  | .error _ => none

/-! non-vacuity: a table that interrupts a paragraph (the rule as a terminator), a body row with a missing cell, the table ended by a
block quote (its terminator chain); a delimiter-looking line without `|` in the header stays a setext heading -/
example : stateTypes (tParse { entity := fun _ => none, reformat := id, normText := id, html := false }
      { hasRefs := false, normRef := id, storeLabels := false, refs := fun _ => none }
      { code := true, fence := true, hr := true, heading := true, htmlBlock := false, lheading := true, html := false, reference := false,
        inlineDefs := false, table := true } [32, 9, 10, 11, 12, 13] 20
      "para\n|a|b|\n|-|:-:|\n|c|\n> q\n\nh\n---\n".toList)
    = some (["paragraph_open", "inline", "paragraph_close", "table_open", "thead_open", "tr_open", "th_open", "inline", "th_close", "th_open",
             "inline", "th_close", "tr_close", "thead_close", "tbody_open", "tr_open", "td_open", "inline", "td_close", "td_open", "inline",
             "td_close", "tr_close", "tbody_close", "table_close", "blockquote_open", "paragraph_open", "inline", "paragraph_close",
             "blockquote_close", "heading_open", "inline", "heading_close"], 8) := by
  decide +kernel

end MdIt.C01
