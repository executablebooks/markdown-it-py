import MdIt.Props.C08c
import MdIt.Props.C02h
/-!
# C08 (continued) — verbatim content with `html_block` and `lheading` in the chain

`html_block` keeps its lines verbatim (what is removed is the container prefix / indentation up to `blkIndent`; every line keeps its
line feed); a setext heading records the underline character as its markup.  `m_verbatim` is `l_verbatim` (code blocks, fences,
thematic breaks) plus these two.
-/
namespace MdIt.C08
open MdIt.C01 MdIt.C02

theorem verbOK_htmlBlock (P) (codeOn htmlOn : Bool) : SegOK P VerbSeg (ruleHtmlBlock codeOn htmlOn) :=
  C02.segOK_of_leaf (html_shape P codeOn htmlOn) fun s line _ n seg hn ⟨_, _, c, hcx, hseg⟩ t ht => by
    rw [getLinesB_spec s line n s.blkIndent true (Nat.le_of_lt hn)] at hcx
    cases hcx
    subst hseg
    rw [List.mem_singleton] at ht; subst ht
    exact ⟨⟨fun h => by simp [pushedTok, Tok.type] at h, fun h => by simp [pushedTok, Tok.type] at h, fun h => by simp [pushedTok, Tok.type] at h⟩,
      fun _ => ⟨line, n, rfl, by simp [pushedTok, Tok.content]⟩, fun h => by simp [pushedTok, Tok.type] at h⟩

theorem verbOK_lheadingE (P : BState → Nat → Prop) (codeOn : Bool) (terms : List BRule) (hin : ∀ t ∈ terms, SilentInertE t) (ws : List Nat) :
    SegOK P VerbSeg (ruleLheading codeOn terms ws) :=
  C02.segOK_of_leaf (lheading_shapeE P codeOn terms hin ws) fun s _ _ _ _ _ ⟨_, _, _, _, _, _, hseg, _, _, _, _, hm, hmk, _⟩ =>
    hseg ▸ hmk ▸ verbSeg_triple s (by decide) (by decide) fun _ => .inr (by rcases hm with rfl | rfl; exact .inr rfl; exact .inl rfl)

theorem verbM_leavesM (P : BState → Nat → Prop) (c : MCfg) {pt : List BRule} (hpt : ∀ t ∈ pt, SilentInertE t) (ws : List Nat) :
    ∀ r ∈ leavesM c pt ws, SegOK P VerbMS r := fun r hr =>
  verbM_of_seg (forall_leavesM (verbOK_leaves P c.toMiniCfg hpt ws) (fun _ => verbOK_htmlBlock _ _ _) (fun _ => verbOK_lheadingE _ _ _ hpt ws) r hr)

/-- **C08.m_verbatim** — nine of the eleven block rules, through quotes and lists nested to any depth: every `code_block`, `fence`,
`hr` token as in `l_verbatim`; every `html_block` token holds, line for line, the lines its map points to in the normalised source
with only a prefix removed (at most pad spaces put in front), each with its line feed; every `heading_open` has a run of `#` or the
setext underline character as its markup -/
theorem m_verbatim (c : MCfg) (ws : List Nat) (maxNesting : Int) (src : List Char) (ts : List Tok)
    (h : mParse c ws maxNesting src = .ok ts) : ∀ t ∈ ts, VerbM (initBState (normalize src)).lines t := by
  obtain ⟨segs, hts, hS⟩ := mParse_segs VerbMS verbM_wrap verbM_listWrap c ws maxNesting
    (verbM_leavesM · c (inertE_of_inert (mTerminators_inert c ws maxNesting)) ws) src ts h
  exact toks_flatten hts hS

end MdIt.C08
