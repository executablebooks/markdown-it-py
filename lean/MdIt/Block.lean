import MdIt.Token
/-!
# MdIt.Block — the block tokenizer engine (`parser_block.py: ParserBlock.tokenize`,
`StateBlock.skipEmptyLines/isEmpty/push`) over an abstract rule chain

A rule is `BState → startLine → endLine → silent → Except PyErr (Bool × BState)`.  Container rules
re-enter the engine themselves (open recursion); at the engine level they are rules like the others,
constrained by their contract.  The real loop has no progress check: if no rule matches (or a rule
matches without advancing `state.line`) it spins forever — the model returns
`.error (.noProgress "block")` there, so totality is a statement about values.
-/
namespace MdIt

/-- one line of the line tables.  The loop reads `isEmpty(line)` (computed from the entry) and `sCount[line]`; the modelled rules
    (`MdIt/BlockRules.lean`) also read the line's characters `src[bMarks[line] : eMarks[line]]`, `tShift`,
    `bsCount` and whether a line feed follows `eMarks[line]` -/
structure BLine where
  sCount : Int
  text : List Char := []
  tShift : Nat := 0
  bs : Nat := 0
  hasLF : Bool := true
deriving Repr, DecidableEq

/-- `StateBlock.isEmpty(line)`: `bMarks + tShift >= eMarks` — computed, as in the code, not stored -/
def BLine.empty (l : BLine) : Bool := decide (l.text.length ≤ l.tShift)

structure BState where
  lines : List BLine       -- one entry per line, plus the trailing sentinel entry (empty)
  line : Nat
  lineMax : Nat
  blkIndent : Int
  level : Int
  tight : Bool
  parentType : String
  tokens : List Tok
  listIndent : Int := -1   -- `state.listIndent` (read and written by the list rule only)
  refs : List (List Char × List Char × List Char) := []   -- `env["references"]` entries this parse added: label ↦ (href, title), in order
  dups : List (List Char × List Char × List Char) := []   -- `env["duplicate_refs"]` entries this parse added
deriving Repr

abbrev BRule := BState → Nat → Nat → Bool → Except PyErr (Bool × BState)

def BState.isEmpty (s : BState) (i : Int) : Except PyErr Bool :=
  match idx s.lines i with          -- Python list indexing (a negative index wraps)
  | .ok l => .ok l.empty
  | .error e => .error e

/-- `StateBlock.skipEmptyLines` (the `except IndexError: pass` branch included) -/
def skipEmptyLines (s : BState) : Nat → Nat → Nat
  | 0, from_ => from_
  | fuel + 1, from_ =>
    if from_ < s.lineMax then
      match s.lines[from_]? with
      | some l => if l.empty then skipEmptyLines s fuel (from_ + 1) else from_
      | none => skipEmptyLines s fuel (from_ + 1)
    else from_

/-- `StateBlock.push` -/
def BState.push (s : BState) (type tag : String) (nesting : Int) : BState × Tok :=
  let lvl := if nesting < 0 then s.level - 1 else s.level
  let t : Tok := .mk type tag nesting [] none lvl none "" "" "" [] true false
  ({ s with tokens := s.tokens ++ [t], level := if nesting > 0 then lvl + 1 else lvl }, t)

/-- try the rules in order at `line` -/
def runBlockChain : List BRule → BState → Nat → Nat → Except PyErr (Bool × BState)
  | [], s, _, _ => .ok (false, s)
  | r :: rest, s, line, endLine =>
    match r s line endLine false with
    | .error e => .error e
    | .ok (true, s') => .ok (true, s')
    | .ok (false, s') => runBlockChain rest s' line endLine

/-- the `while line < endLine` loop of `ParserBlock.tokenize` -/
def blockLoop (rules : List BRule) (maxNesting : Int) (endLine : Nat) :
    Nat → Nat → Bool → BState → Except PyErr BState
  | 0, line, _, s => if line < endLine then .error (.noProgress "block") else .ok s
  | fuel + 1, line, hasEmpty, s =>
    if line < endLine then
      let line1 := skipEmptyLines s (s.lineMax + 1) line
      let s1 := { s with line := line1 }
      if line1 ≥ endLine then .ok s1 else
      match s1.lines[line1]? with
      | none => .error .indexError
      | some l =>
        if l.sCount < s1.blkIndent then .ok s1
        else if s1.level ≥ maxNesting then .ok { s1 with line := endLine }
        else
          match runBlockChain rules s1 line1 endLine with
          | .error e => .error e
          | .ok (_, s2) =>
            let s3 := { s2 with tight := !hasEmpty }
            let line2 := s3.line
            if line2 ≤ line1 then .error (.noProgress "block") else       -- the real loop would spin
            match (if (line2 : Int) - 1 < endLine then s3.isEmpty ((line2 : Int) - 1) else .ok false) with
            | .error e => .error e
            | .ok e1 =>
              let hasEmpty1 := hasEmpty || e1
              if line2 < endLine then
                match s3.isEmpty line2 with
                | .error e => .error e
                | .ok e2 =>
                  if e2 then blockLoop rules maxNesting endLine fuel (line2 + 1) true { s3 with line := line2 + 1 }
                  else blockLoop rules maxNesting endLine fuel line2 hasEmpty1 s3
              else blockLoop rules maxNesting endLine fuel line2 hasEmpty1 s3
    else .ok s

/-- `ParserBlock.tokenize(state, startLine, endLine)` -/
def blockTokenize (rules : List BRule) (maxNesting : Int) (s : BState) (startLine endLine : Nat) :
    Except PyErr BState :=
  blockLoop rules maxNesting endLine (endLine - startLine + 1) startLine false s

/-! ### rule contracts (what the engine theorems assume of every rule of the chain; monitored on the
real rules by the harness, proved for the rules modelled in `MdIt/BlockRules.lean` in `Props/C01b.lean`) -/

/-- the fields a rule has to hand back as it found them: what the loop depends on (line tables, `lineMax`, `blkIndent`, `level`),
    and `listIndent`, which only the list rule reads -/
def BState.FrameEq (s s' : BState) : Prop :=
  (s'.lines = s.lines ∧ s'.listIndent = s.listIndent) ∧ s'.lineMax = s.lineMax ∧ s'.blkIndent = s.blkIndent ∧ s'.level = s.level

/-- what every call made by the loop guarantees to the rule: the line tables carry their sentinel entry,
    `line` is a non-empty, not outdented line inside the range, the range ends inside the tables, and the
    caller-specific condition `P` on the frame and the range end holds (e.g. `endLine = lineMax`, which
    is what the top-level call and a terminated block quote give the `paragraph` rule) -/
structure CallCtx (P : BState → Nat → Prop) (s : BState) (line endLine : Nat) : Prop where
  len : s.lineMax + 1 ≤ s.lines.length
  lt : line < endLine
  le : endLine ≤ s.lineMax
  here : ∃ l, s.lines[line]? = some l ∧ l.empty = false ∧ s.blkIndent ≤ l.sCount
  /-- the loop has set `state.line` to the line it dispatches on -/
  cur : s.line = line
  extra : P s endLine

/-- `P` reads only the frame fields -/
def FrameClosed (P : BState → Nat → Prop) : Prop :=
  ∀ s s' e, s.FrameEq s' → P s e → P s' e

theorem CallCtx.transfer {P : BState → Nat → Prop} (hP : FrameClosed P) {s s' : BState} {line endLine : Nat}
    (h : CallCtx P s line endLine) (hf : s.FrameEq s') (hl : s'.line = s.line) : CallCtx P s' line endLine :=
  ⟨by rw [hf.1.1, hf.2.1]; exact h.len, h.lt, by rw [hf.2.1]; exact h.le,
   by obtain ⟨l, h1, h2, h3⟩ := h.here; exact ⟨l, by rw [hf.1.1]; exact h1, h2, by rw [hf.2.2.1]; exact h3⟩,
   by rw [hl]; exact h.cur, hP _ _ _ hf h.extra⟩

/-- the contract of a rule, for the calls the loop makes (K1–K4) -/
structure RuleOK (P : BState → Nat → Prop) (r : BRule) : Prop where
  /-- K1: never raises (non-silent call from the loop) -/
  total : ∀ s line endLine, CallCtx P s line endLine → ∃ m s', r s line endLine false = .ok (m, s')
  /-- K3: a match advances `state.line` past the start line, not beyond the line tables.  (Not "not beyond
      `endLine`": a block quote whose last lines are empty returns with `state.line` at the next non-empty line
      of the *document* — its nested loop's `skipEmptyLines` runs to `lineMax` — which can lie beyond the `endLine`
      of an enclosing quote: `"> > \n> \n\nfoo"`.  The loop then simply stops.) -/
  progress : ∀ s line endLine s', CallCtx P s line endLine → r s line endLine false = .ok (true, s') →
    line < s'.line ∧ s'.line ≤ s.lineMax
  /-- K2 (the part the loop needs): a miss leaves `state.line` alone -/
  miss : ∀ s line endLine s', CallCtx P s line endLine → r s line endLine false = .ok (false, s') → s'.line = s.line
  /-- K4: line tables, `listIndent`, `lineMax`, `blkIndent` and `level` are restored on return -/
  frame : ∀ s line endLine m s', CallCtx P s line endLine → r s line endLine false = .ok (m, s') → s.FrameEq s'

/-- the fallback rule: matches on every call the loop makes -/
def AlwaysMatches (P : BState → Nat → Prop) (r : BRule) : Prop :=
  ∀ s line endLine, CallCtx P s line endLine → ∃ s', r s line endLine false = .ok (true, s')

end MdIt
