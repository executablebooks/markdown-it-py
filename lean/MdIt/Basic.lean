/-!
# MdIt.Basic — Python-level vocabulary shared by all model files

Model files import nothing outside Lean core (so that the `driver` executable links).

* `PyErr` : the exceptions the modelled code can raise.  They are *values* of the model, never
  totalised away: a function that mirrors raising code returns `Except PyErr α`.
* `idx`   : Python's `s[i]` on a sequence (negative indices wrap, out of range raises).
-/
namespace MdIt

inductive PyErr where
  | indexError
  | unbound (var : String)
  | valueError (msg : String)
  | assertion
  | typeError
  | keyError (name : String)
  | moduleNotFound
  | userRaised (id : Nat)
  | noProgress (chain : String)
  | depthExceeded
deriving Repr, DecidableEq, Inhabited

def PyErr.tag : PyErr → String
  | .indexError => "IndexError"
  | .unbound _ => "UnboundLocalError"
  | .valueError _ => "ValueError"
  | .assertion => "AssertionError"
  | .typeError => "TypeError"
  | .keyError _ => "KeyError"
  | .moduleNotFound => "ModuleNotFoundError"
  | .userRaised n => s!"UserRaised{n}"
  | .noProgress _ => "Hang"
  | .depthExceeded => "RecursionError"

/-- Python `s[i]` for a list: negative indices count from the end, out of range raises. -/
def idx {α} (s : List α) (i : Int) : Except PyErr α :=
  let n : Int := s.length
  let j := if i < 0 then i + n else i
  if j < 0 then .error .indexError
  else match s[j.toNat]? with
    | some a => .ok a
    | none => .error .indexError

/-- Python slice `s[a:b]` with non-negative bounds (the only form used by the library on sources). -/
def slice {α} (s : List α) (a b : Nat) : List α := (s.take b).drop a

theorem slice_length {α} (s : List α) (a b : Nat) : (slice s a b).length = min b s.length - a := by
  simp [slice]

theorem getElem?_lt {α} {l : List α} {i : Nat} {a : α} (h : l[i]? = some a) : i < l.length :=
  let ⟨hl, _⟩ := List.getElem?_eq_some_iff.1 h; hl

end MdIt
