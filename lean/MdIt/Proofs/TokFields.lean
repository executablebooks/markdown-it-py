import MdIt.Emphasis
import MdIt.BlockList
/-!
# What the token setters (of the inline parser, of the block containers, and `setChildren` of the core rules) write and what they leave alone
-/
namespace MdIt.Tok

@[simp] theorem setLevel_level (t : Tok) (l : Int) : (t.setLevel l).level = l := by cases t; rfl
@[simp] theorem setLevel_nesting (t : Tok) (l : Int) : (t.setLevel l).nesting = t.nesting := by cases t; rfl
@[simp] theorem setLevel_type (t : Tok) (l : Int) : (t.setLevel l).type = t.type := by cases t; rfl
@[simp] theorem setLevel_tag (t : Tok) (l : Int) : (t.setLevel l).tag = t.tag := by cases t; rfl
@[simp] theorem setLevel_markup (t : Tok) (l : Int) : (t.setLevel l).markup = t.markup := by cases t; rfl
@[simp] theorem setLevel_content (t : Tok) (l : Int) : (t.setLevel l).content = t.content := by cases t; rfl
@[simp] theorem setLevel_attrs (t : Tok) (l : Int) : (t.setLevel l).attrs = t.attrs := by cases t; rfl

@[simp] theorem setContent_nesting (t : Tok) (c : String) : (t.setContent c).nesting = t.nesting := by cases t; rfl
@[simp] theorem setContent_type (t : Tok) (c : String) : (t.setContent c).type = t.type := by cases t; rfl
@[simp] theorem setContent_tag (t : Tok) (c : String) : (t.setContent c).tag = t.tag := by cases t; rfl
@[simp] theorem setContent_content (t : Tok) (c : String) : (t.setContent c).content = c := by cases t; rfl
@[simp] theorem setContent_attrs (t : Tok) (c : String) : (t.setContent c).attrs = t.attrs := by cases t; rfl

theorem setChildren_children (t : Tok) (cs : Option (List Tok)) : (t.setChildren cs).children = cs := by cases t; rfl
theorem setChildren_type (t : Tok) (cs : Option (List Tok)) : (t.setChildren cs).type = t.type := by cases t; rfl
theorem setChildren_content (t : Tok) (cs : Option (List Tok)) : (t.setChildren cs).content = t.content := by cases t; rfl
theorem setChildren_map (t : Tok) (cs : Option (List Tok)) : (t.setChildren cs).map = t.map := by cases t; rfl
theorem setChildren_nesting (t : Tok) (cs : Option (List Tok)) : (t.setChildren cs).nesting = t.nesting := by cases t; rfl
theorem setChildren_level (t : Tok) (cs : Option (List Tok)) : (t.setChildren cs).level = t.level := by cases t; rfl
theorem setChildren_self (t : Tok) : t.setChildren t.children = t := by cases t; rfl
theorem setChildren_setChildren (t : Tok) (cs cs' : Option (List Tok)) : (t.setChildren cs).setChildren cs' = t.setChildren cs' := by cases t; rfl

@[simp] theorem setEmph_nesting (t : Tok) (ty tag : String) (n : Int) (mk : String) : (t.setEmph ty tag n mk).nesting = n := by cases t; rfl
@[simp] theorem setEmph_type (t : Tok) (ty tag : String) (n : Int) (mk : String) : (t.setEmph ty tag n mk).type = ty := by cases t; rfl
@[simp] theorem setEmph_tag (t : Tok) (ty tag : String) (n : Int) (mk : String) : (t.setEmph ty tag n mk).tag = tag := by cases t; rfl
@[simp] theorem setEmph_attrs (t : Tok) (ty tag : String) (n : Int) (mk : String) : (t.setEmph ty tag n mk).attrs = t.attrs := by cases t; rfl

theorem setMap_map (t : Tok) (m) : (t.setMap m).map = m := by cases t; rfl
theorem setMap_nesting (t : Tok) (m) : (t.setMap m).nesting = t.nesting := by cases t; rfl
theorem setMap_level (t : Tok) (m) : (t.setMap m).level = t.level := by cases t; rfl
theorem setMap_type (t : Tok) (m) : (t.setMap m).type = t.type := by cases t; rfl

@[simp] theorem setHidden_setHidden (t : Tok) (h h' : Bool) : (t.setHidden h).setHidden h' = t.setHidden h' := by cases t; rfl
@[simp] theorem setHidden_nesting (t : Tok) (h : Bool) : (t.setHidden h).nesting = t.nesting := by cases t; rfl
@[simp] theorem setHidden_level (t : Tok) (h : Bool) : (t.setHidden h).level = t.level := by cases t; rfl
@[simp] theorem setHidden_type (t : Tok) (h : Bool) : (t.setHidden h).type = t.type := by cases t; rfl
@[simp] theorem setHidden_map (t : Tok) (h : Bool) : (t.setHidden h).map = t.map := by cases t; rfl

@[simp] theorem setAttrs_nesting (t : Tok) (a) : (t.setAttrs a).nesting = t.nesting := by cases t; rfl
@[simp] theorem setAttrs_level (t : Tok) (a) : (t.setAttrs a).level = t.level := by cases t; rfl
@[simp] theorem setAttrs_type (t : Tok) (a) : (t.setAttrs a).type = t.type := by cases t; rfl
theorem setAttrs_map (t : Tok) (a) : (t.setAttrs a).map = t.map := by cases t; rfl
theorem setAttrs_setMap (t : Tok) (a) (m) : (t.setAttrs a).setMap m = (t.setMap m).setAttrs a := by cases t; rfl

end MdIt.Tok
