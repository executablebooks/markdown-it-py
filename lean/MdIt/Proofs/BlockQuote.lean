import MdIt.BlockQuote
import MdIt.Proofs.BlockRules
/-!
# The block quote rule in steps

`quoteScan` looks at a line and either stops or rewrites its entry and goes on.  `quoteScanStep` is that decision and `quoteScan_succ`
the search in terms of it, so that an invariant of the search needs one fact about the step.  The rule itself is its tests followed by
`quoteRun` (`ruleBlockquote_eq`, `ruleBlockquote_cases`), whose states are given in closed form.
-/
namespace MdIt

inductive QuoteScanStep where
  | stop (s : BState) (saved : List BLine)
  | next (lastEmpty : Bool) (s : BState) (saved : List BLine)

/-- what the `while` loop of `blockquote` does with line `next`, whose entry is `l` -/
def quoteScanStep (terms : List BRule) (endLine next : Nat) (lastEmpty : Bool) (s : BState) (saved : List BLine) (l : BLine) :
    Except PyErr QuoteScanStep :=
  if l.empty then .ok (.stop s saved)
  else if l.body.head? == some '>' && !decide (l.sCount < s.blkIndent) then
    .ok (.next (quoteStrip l).2 (s.setLine next (quoteStrip l).1) (saved ++ [l]))
  else if lastEmpty then .ok (.stop s saved)
  else
    match runTerminators terms s next endLine with
    | .error e => .error e
    | .ok (true, s1) =>
      if s1.blkIndent != 0 then
        match getL s1 next with
        | .error e => .error e
        | .ok l1 => .ok (.stop (({ s1 with lineMax := next } : BState).setLine next { l1 with sCount := l1.sCount - s1.blkIndent }) (saved ++ [l1]))
      else .ok (.stop { s1 with lineMax := next } saved)
    | .ok (false, s1) =>
      match getL s1 next with
      | .error e => .error e
      | .ok l1 => .ok (.next lastEmpty (s1.setLine next { l1 with sCount := -1 }) (saved ++ [l1]))

theorem quoteScan_succ (terms : List BRule) (endLine fuel next : Nat) (lastEmpty : Bool) (s : BState) (saved : List BLine) :
    quoteScan terms endLine (fuel + 1) next lastEmpty s saved =
      if next < endLine then
        match getL s next with
        | .error e => .error e
        | .ok l =>
          match quoteScanStep terms endLine next lastEmpty s saved l with
          | .error e => .error e
          | .ok (.stop s' sv) => .ok (next, s', sv)
          | .ok (.next le s' sv) => quoteScan terms endLine fuel (next + 1) le s' sv
      else .ok (next, s, saved) := by
  rw [quoteScan]
  refine ite_congr rfl (fun _ => ?_) fun _ => rfl
  cases getL s next with
  | error e => rfl
  | ok l =>
    unfold quoteScanStep
    by_cases h1 : l.empty = true
    · simp only [if_pos h1]
    · by_cases h2 : (l.body.head? == some '>' && !decide (l.sCount < s.blkIndent)) = true
      · simp only [if_neg h1, if_pos h2]
      · by_cases h3 : lastEmpty = true
        · simp only [if_neg h1, if_neg h2, if_pos h3]
        · simp only [if_neg h1, if_neg h2, if_neg h3]
          cases runTerminators terms s next endLine with
          | error e => rfl
          | ok r =>
            obtain ⟨b, s1⟩ := r
            cases b with
            | true =>
              by_cases h4 : (s1.blkIndent != 0) = true
              · simp only [if_pos h4]
                cases getL s1 next <;> rfl
              · simp only [if_neg h4]
            | false =>
              dsimp only
              cases getL s1 next <;> rfl

theorem quoteStrip_suf (l : BLine) : (quoteStrip l).1.text <:+ l.text ∧ (quoteStrip l).1.hasLF = l.hasLF := by
  refine ⟨?_, rfl⟩
  show List.drop _ (List.drop 1 l.body) <:+ l.text
  exact List.IsSuffix.trans (List.drop_suffix _ _) (List.IsSuffix.trans (List.drop_suffix _ _) (List.drop_suffix _ _))

/-- the restore loop writes the line tables only; what it writes there: `C01.restoreLines_get` -/
theorem restoreLines_eq : ∀ (saved : List BLine) (s : BState) (start : Nat),
    restoreLines s start saved = { s with lines := (restoreLines s start saved).lines }
  | [], _, _ => rfl
  | _ :: rest, s, start => (restoreLines_eq rest (s.setLine start _) (start + 1)).trans rfl

theorem restoreLines_length : ∀ (saved : List BLine) (s : BState) (start : Nat), (restoreLines s start saved).lines.length = s.lines.length
  | [], _, _ => rfl
  | _ :: rest, s, start => (restoreLines_length rest (s.setLine start _) (start + 1)).trans (List.length_set ..)

/-- under inert terminators the step does not raise and does one of four things: stop with the state as it is; stop with `lineMax`
    lowered to `next` (a terminator matched); stop with `lineMax` lowered and the entry of `next` rewritten; go on with that entry
    rewritten.  A rewritten entry `l'` holds a suffix of the old text and the old line-feed flag, which is what `C01.SufLines` needs. -/
theorem quoteScanStep_inert (terms : List BRule) (hin : ∀ t ∈ terms, SilentInert t) (endLine next : Nat) (lastEmpty : Bool) (s : BState)
    (saved : List BLine) (l : BLine) (hl : s.lines[next]? = some l) :
    ∃ q, quoteScanStep terms endLine next lastEmpty s saved l = .ok q ∧
      (q = .stop s saved ∨ q = .stop { s with lineMax := next } saved
        ∨ ∃ l' : BLine, l'.text <:+ l.text ∧ l'.hasLF = l.hasLF ∧
            (q = .stop (({ s with lineMax := next } : BState).setLine next l') (saved ++ [l])
              ∨ ∃ le, q = .next le (s.setLine next l') (saved ++ [l]))) := by
  have hlt : next < s.lines.length := by
    rcases Nat.lt_or_ge next s.lines.length with h | h
    · exact h
    · rw [List.getElem?_eq_none_iff.mpr h] at hl; cases hl
  obtain ⟨b, hb⟩ := runTerminators_inert terms hin s next endLine hlt
  have hg := getL_of_here hl
  fun_cases quoteScanStep terms endLine next lastEmpty s saved l
  case case1 | case3 => exact ⟨_, rfl, .inl rfl⟩  -- a blank line; a line after a blank one
  case case2 =>  -- a `>` line
    exact ⟨_, rfl, .inr (.inr ⟨(quoteStrip l).1, (quoteStrip_suf l).1, rfl, .inr ⟨_, rfl⟩⟩)⟩
  case case4 h => rw [hb] at h; cases h  -- the terminators raise
  case case5 h _ _ he | case8 h _ he => rw [hb] at h; cases h; rw [hg] at he; cases he  -- the line is not in the tables
  case case6 h _ _ h1 =>  -- a terminator matches inside an indented quote
    rw [hb] at h; cases h; rw [hg] at h1; cases h1
    exact ⟨_, rfl, .inr (.inr ⟨{ l with sCount := l.sCount - s.blkIndent }, List.suffix_refl _, rfl, .inl rfl⟩)⟩
  case case7 h _ => rw [hb] at h; cases h; exact ⟨_, rfl, .inr (.inl rfl)⟩  -- a terminator matches, `blkIndent = 0`
  case case9 h _ h1 =>  -- a lazy continuation line
    rw [hb] at h; cases h; rw [hg] at h1; cases h1
    exact ⟨_, rfl, .inr (.inr ⟨{ l with sCount := -1 }, List.suffix_refl _, rfl, .inr ⟨_, rfl⟩⟩)⟩

/-- the state the end-of-quote search starts from: the first line stripped of its marker -/
def quoteStart (s : BState) (line : Nat) (l0 : BLine) : BState :=
  { (s.setLine line (quoteStrip l0).1) with parentType := "blockquote" }

/-- the state a matched quote hands to its nested run: `s2` is what the end-of-quote search left -/
def quoteEnter (s2 : BState) (line : Nat) : BState :=
  ({ s2 with blkIndent := 0 }).pushFull "blockquote_open" "blockquote" 1 (some (line, 0)) none "" ">" ""

theorem quoteEnter_eq (s2 : BState) (line : Nat) :
    quoteEnter s2 line = { s2 with blkIndent := 0, level := s2.level + 1,
                                   tokens := s2.tokens ++ [pushedTok s2 "blockquote_open" "blockquote" 1 (some (line, 0)) none "" ">" ""] } := rfl

/-- the quote rule's bookkeeping once the closing token is pushed: `lineMax`, `parentType`, the map patch of the opening token -/
def finish6 (s5 : BState) (lm : Nat) (pt : String) (ntok line : Nat) : BState :=
  { s5 with lineMax := lm, parentType := pt, tokens := s5.tokens.modify ntok (fun t => t.setMap (some (line, s5.line))) }

/-- the state a matched quote returns: `s` entered the rule, `s2` the nested part (after the search), `s4` is what the nested run left -/
def quoteLeave (s s2 s4 : BState) (line : Nat) (saved : List BLine) : BState :=
  { restoreLines (finish6 (s4.pushFull "blockquote_close" "blockquote" (-1) none none "" ">" "") s.lineMax s.parentType s2.tokens.length line)
      line saved with blkIndent := s2.blkIndent }

/-- the quote proper, once the first line `l0` is known to start one -/
def quoteRun (terms inner : List BRule) (mn : Int) (s : BState) (line endLine : Nat) (l0 : BLine) : Except PyErr (Bool × BState) :=
  match quoteScan terms endLine (endLine - line + 1) (line + 1) (quoteStrip l0).2 (quoteStart s line l0) [l0] with
  | .error e => .error e
  | .ok (next, s2, saved) =>
    match blockTokenize inner mn (quoteEnter s2 line) line next with
    | .error e => .error e
    | .ok s4 => .ok (true, quoteLeave s s2 s4 line saved)

theorem ruleBlockquote_eq (codeOn : Bool) (terms inner : List BRule) (mn : Int) (s : BState) (line endLine : Nat) (silent : Bool) :
    ruleBlockquote codeOn terms inner mn s line endLine silent =
      (match getL s line with
       | .error e => .error e
       | .ok l0 =>
         if isCodeLine codeOn s l0 then .ok (false, s) else
         if !(l0.body.head? == some '>') then .ok (false, s) else
         if silent then .ok (true, s) else quoteRun terms inner mn s line endLine l0) := rfl

theorem ruleBlockquote_cases (codeOn : Bool) (terms inner : List BRule) (mn : Int) (s : BState) (line endLine : Nat) (silent : Bool) {l0 : BLine}
    (hg : getL s line = .ok l0) :
    ruleBlockquote codeOn terms inner mn s line endLine silent = .ok (false, s) ∨
    ruleBlockquote codeOn terms inner mn s line endLine silent =
      if silent then .ok (true, s) else quoteRun terms inner mn s line endLine l0 := by
  rw [ruleBlockquote_eq, hg]
  by_cases h1 : isCodeLine codeOn s l0 = true
  · exact .inl (if_pos h1)
  · by_cases h2 : (!(l0.body.head? == some '>')) = true
    · exact .inl ((if_neg h1).trans (if_pos h2))
    · exact .inr ((if_neg h1).trans (if_neg h2))

/-- the line tables: `C01.restore_lines` -/
theorem quoteLeave_eq (s s2 s4 : BState) (line : Nat) (saved : List BLine) :
    quoteLeave s s2 s4 line saved =
      { s4 with lines := (quoteLeave s s2 s4 line saved).lines, lineMax := s.lineMax, parentType := s.parentType, blkIndent := s2.blkIndent,
                level := s4.level - 1,
                tokens := (s4.tokens ++ [pushedTok s4 "blockquote_close" "blockquote" (-1) none none "" ">" ""]).modify s2.tokens.length
                  (fun t => t.setMap (some (line, s4.line))) } := by
  unfold quoteLeave
  rw [restoreLines_eq]
  rfl

theorem quote_declines (codeOn : Bool) (ts inner : List BRule) (mn : Int) (s : BState) (line endLine : Nat) (silent : Bool) {l : BLine}
    (hg : getL s line = .ok l) (h : (!l.body.head? == some '>') = true) : ruleBlockquote codeOn ts inner mn s line endLine silent = .ok (false, s) := by
  rw [ruleBlockquote_eq, hg]
  by_cases hc : isCodeLine codeOn s l = true
  · exact if_pos hc
  · exact (if_neg hc).trans (if_pos h)

end MdIt
