import MdIt.Pipeline
import MdIt.Proofs.TokFields
/-!
# What the pipelines share after the block parse

`fullParse`, `fullParseR`, `fullParseT` and `parseInlineM` are one function, `coreTail`, behind four block parses.  An end-to-end
statement is then a fact about the block parse carried through `coreTail`: a successful run changes nothing of a block token but its
children, and with the inline pass on the children of an `inline` token are what the parser makes of its content, joined by
`text_join` or not.  The parser enters only through the contents of the `inline` tokens.
-/
namespace MdIt

/-- the core chain behind the `block` rule: the `inline` rule with the inline parser `parse` (if on), then `text_join` (if on) -/
def coreTail (ic : ICfg) (parse : List Char → Except PyErr (List Tok)) (bts : List Tok) : Except PyErr (List Tok) :=
  match (if ic.inlineOn then coreInline parse bts else .ok bts) with
  | .error e => .error e
  | .ok ts => .ok (if ic.textJoinOn then textJoin ts else ts)

variable {cls : QCls} {ext : IExt} {lx : LExt} {ic : ICfg} {ws : List Nat} {mn : Int} {d : Nat} {src : List Char}
  {parse : List Char → Except PyErr (List Tok)} {bts ts : List Tok}

theorem fullParse_iff {bc : MCfg} : fullParse cls ext lx bc ic ws mn d src = .ok ts ↔
    ∃ bts, mParse bc ws mn src = .ok bts ∧ coreTail ic (inlineOf cls ext lx ic mn d) bts = .ok ts := by
  unfold fullParse
  cases mParse bc ws mn src with
  | error e => exact ⟨nofun, fun ⟨_, hb, _⟩ => nomatch hb⟩
  | ok bts => exact ⟨fun h => ⟨bts, rfl, h⟩, fun ⟨_, hb, h⟩ => by cases hb; exact h⟩

/-- the left side is, literally, the body `fullParseR` and `fullParseT` share behind their block parse `r` -/
theorem withEnv_iff {r : Except PyErr BState} {refs dups : List (List Char × List Char × List Char)} :
    (match r with
      | .error e => .error e
      | .ok s =>
        match (if ic.inlineOn then coreInline (inlineOf cls ext (envAfter lx s) ic mn d) s.tokens else .ok s.tokens) with
        | .error e => .error e
        | .ok ts => .ok (if ic.textJoinOn then textJoin ts else ts, s.refs, s.dups)) = Except.ok (ts, refs, dups) ↔
    ∃ st, r = .ok st ∧ coreTail ic (inlineOf cls ext (envAfter lx st) ic mn d) st.tokens = .ok ts ∧ refs = st.refs ∧ dups = st.dups := by
  cases r with
  | error e => exact ⟨nofun, fun ⟨_, hb, _⟩ => nomatch hb⟩
  | ok st =>
    refine Iff.trans ?_ ⟨fun h => ⟨st, rfl, h⟩, fun ⟨_, hb, h⟩ => by cases hb; exact h⟩
    dsimp only
    unfold coreTail
    generalize (if ic.inlineOn = true then coreInline (inlineOf cls ext (envAfter lx st) ic mn d) st.tokens else Except.ok st.tokens) = x
    cases x with
    | error e => exact ⟨nofun, fun h => nomatch h.1⟩
    | ok its => exact ⟨fun h => by cases h; exact ⟨rfl, rfl, rfl⟩, fun ⟨h, h1, h2⟩ => by cases h; rw [h1, h2]⟩

theorem fullParseR_iff {rc : RCfg} {refs dups : List (List Char × List Char × List Char)} :
    fullParseR cls ext lx rc ic ws mn d src = .ok (ts, refs, dups) ↔ ∃ st, rParse ext lx rc ws mn src = .ok st ∧
      coreTail ic (inlineOf cls ext (envAfter lx st) ic mn d) st.tokens = .ok ts ∧ refs = st.refs ∧ dups = st.dups :=
  withEnv_iff

theorem fullParseT_iff {tc : TCfg} {refs dups : List (List Char × List Char × List Char)} :
    fullParseT cls ext lx tc ic ws mn d src = .ok (ts, refs, dups) ↔ ∃ st, tParse ext lx tc ws mn src = .ok st ∧
      coreTail ic (inlineOf cls ext (envAfter lx st) ic mn d) st.tokens = .ok ts ∧ refs = st.refs ∧ dups = st.dups :=
  withEnv_iff

theorem coreInline_setCh (h : coreInline parse bts = .ok ts) : ts.map (·.setChildren none) = bts.map (·.setChildren none) := by
  -- of the six paths of `coreInline` three return: the empty list (`case1`); an `inline` token whose content parses, before a rest that
  -- returns (`case4`); any other token before such a rest (`case6`)
  fun_induction coreInline parse bts generalizing ts with
  | case1 => cases h; rfl
  | case2 | case3 | case5 => cases h
  | case4 _ _ _ _ _ _ hr ih => cases h; rw [List.map_cons, List.map_cons, Tok.setChildren_setChildren, ih hr]
  | case6 _ _ _ _ hr ih => cases h; rw [List.map_cons, List.map_cons, ih hr]

theorem textJoin_setCh (ts : List Tok) : (textJoin ts).map (·.setChildren none) = ts.map (·.setChildren none) := by
  rw [textJoin, List.map_map]
  refine List.map_congr_left fun t _ => ?_
  show (if t.type == "inline" then _ else t).setChildren none = _
  split
  · exact Tok.setChildren_setChildren _ _ _
  · rfl

theorem coreTail_ok (h : coreTail ic parse bts = .ok ts) :
    ∃ its, (if ic.inlineOn then coreInline parse bts else .ok bts) = .ok its ∧ ts = if ic.textJoinOn then textJoin its else its := by
  unfold coreTail at h
  cases hc : (if ic.inlineOn = true then coreInline parse bts else Except.ok bts) with
  | error e => rw [hc] at h; cases h
  | ok its => rw [hc] at h; cases h; exact ⟨its, rfl, rfl⟩

theorem coreTail_setCh (h : coreTail ic parse bts = .ok ts) : ts.map (·.setChildren none) = bts.map (·.setChildren none) := by
  obtain ⟨its, hc, rfl⟩ := coreTail_ok h
  have hi : its.map (·.setChildren none) = bts.map (·.setChildren none) := by
    cases hon : ic.inlineOn <;> rw [hon] at hc
    · cases (if_neg Bool.false_ne_true ▸ hc : Except.ok bts = .ok its); rfl
    · exact coreInline_setCh hc
  cases ic.textJoinOn
  · exact hi
  · exact (textJoin_setCh its).trans hi

theorem coreTail_mem (h : coreTail ic parse bts = .ok ts) : ∀ t ∈ ts, ∃ b ∈ bts, ∃ c, t = b.setChildren c := by
  intro t ht
  have hm : t.setChildren none ∈ bts.map (·.setChildren none) := coreTail_setCh h ▸ List.mem_map.2 ⟨t, ht, rfl⟩
  obtain ⟨b, hb, hbt⟩ := List.mem_map.1 hm
  exact ⟨b, hb, t.children, by rw [← b.setChildren_setChildren none, hbt, Tok.setChildren_setChildren, Tok.setChildren_self]⟩

theorem coreInline_congr {parse' : List Char → Except PyErr (List Tok)}
    (h : ∀ t ∈ bts, t.type = "inline" → parse t.content.toList = parse' t.content.toList) : coreInline parse bts = coreInline parse' bts := by
  induction bts with
  | nil => rfl
  | cons b rest ih =>
    have hrest := ih fun t ht => h t (List.mem_cons_of_mem _ ht)
    unfold coreInline
    by_cases hb : (b.type == "inline") = true
    · rw [if_pos hb, if_pos hb, h b List.mem_cons_self (eq_of_beq hb), hrest]
    · rw [if_neg hb, if_neg hb, hrest]

theorem coreTail_congr {ic' : ICfg} {parse' : List Char → Except PyErr (List Tok)} (hi : ic.inlineOn = ic'.inlineOn)
    (hj : ic.textJoinOn = ic'.textJoinOn) (h : ∀ t ∈ bts, t.type = "inline" → parse t.content.toList = parse' t.content.toList) :
    coreTail ic parse bts = coreTail ic' parse' bts := by
  unfold coreTail
  rw [hi, hj, coreInline_congr h]

theorem coreTail_forall (h : coreTail ic parse bts = .ok ts) {P : Tok → Prop} (hch : ∀ b c, P b → P (b.setChildren c))
    (hP : ∀ b ∈ bts, P b) : ∀ t ∈ ts, P t := by
  intro t ht
  obtain ⟨b, hb, c, rfl⟩ := coreTail_mem h t ht
  exact hch b c (hP b hb)

theorem coreTail_types (h : coreTail ic parse bts = .ok ts) {P : String → Prop} (hP : ∀ b ∈ bts, P b.type) : ∀ t ∈ ts, P t.type :=
  coreTail_forall h (fun b c hb => by rw [Tok.setChildren_type]; exact hb) hP

theorem coreInline_local (h : coreInline parse bts = .ok ts) :
    ∀ t ∈ ts, t.type = "inline" → ∃ cs, parse t.content.toList = .ok cs ∧ t.children = some cs := by
  fun_induction coreInline parse bts generalizing ts with
  | case1 => cases h; nofun
  | case2 | case3 | case5 => cases h
  | case4 b _ _ cs hp _ hr ih =>
    cases h
    intro u hu hty
    rcases List.mem_cons.1 hu with rfl | hu
    · exact ⟨cs, by rw [Tok.setChildren_content]; exact hp, Tok.setChildren_children _ _⟩
    · exact ih hr u hu hty
  | case6 b _ hinl _ hr ih =>
    cases h
    intro u hu hty
    rcases List.mem_cons.1 hu with rfl | hu
    · exact absurd (by rw [hty]; rfl) hinl
    · exact ih hr u hu hty

theorem textJoin_local (ts : List Tok) (t : Tok) (ht : t ∈ textJoin ts) (hty : t.type = "inline") :
    ∃ u ∈ ts, u.type = "inline" ∧ t.content = u.content ∧ t.children = some (joinToks [] (u.children.getD [])) := by
  obtain ⟨u, hu, rfl⟩ := List.mem_map.1 ht
  by_cases hinl : (u.type == "inline") = true
  · rw [if_pos hinl]
    exact ⟨u, hu, eq_of_beq hinl, Tok.setChildren_content _ _, Tok.setChildren_children _ _⟩
  · rw [if_neg hinl] at hty
    exact absurd (by rw [hty]; rfl) hinl

theorem coreTail_children (hon : ic.inlineOn = true) (h : coreTail ic parse bts = .ok ts) : ∀ t ∈ ts, t.type = "inline" →
    ∃ cs, parse t.content.toList = .ok cs ∧ t.children = some (if ic.textJoinOn then joinToks [] cs else cs) := by
  obtain ⟨its, hc, rfl⟩ := coreTail_ok h
  rw [if_pos hon] at hc
  intro t
  cases ic.textJoinOn <;> intro ht hty
  · exact coreInline_local hc t ht hty
  · obtain ⟨u, hu, huty, hcont, hch⟩ := textJoin_local its t ht hty
    obtain ⟨cs, hp, hcs⟩ := coreInline_local hc u hu huty
    exact ⟨cs, hcont ▸ hp, by rw [hch, hcs]; rfl⟩

end MdIt
