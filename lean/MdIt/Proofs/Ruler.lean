import MdIt.Instance
import MdIt.Proofs.ListFacts
/-!
# The Ruler model: the cache invariant, and the `enable` / `disable` loop without the loop

`Ruler.Coherent` — a published cache agrees with `chainOf` on every chain — holds after every operation.  `appliedNames`, `firstUnknown`
and `loopResult` say by recursion on the names alone which rules `enableLoop` switches and what it returns; the statements about
`enable` / `disable` are phrased in them.
-/
namespace MdIt

def Ruler.Coherent (r : Ruler) : Prop :=
  ∀ c, r.cache = some c → ∀ chain, lookup c chain = chainOf r.rules chain

theorem mem_chainOf {rules : List Rule} {chain : String} {f : Nat} :
    f ∈ chainOf rules chain ↔ ∃ r ∈ rules, r.enabled = true ∧ r.fn = f ∧ (chain = "" ∨ chain ∈ r.alt) := by
  simp only [chainOf, List.mem_map, List.mem_filter, Bool.and_eq_true, Bool.or_eq_true, beq_iff_eq,
    List.contains_iff_mem]
  exact ⟨fun ⟨r, ⟨hr, hen, hch⟩, hf⟩ => ⟨r, hr, hen, hf, hch⟩, fun ⟨r, hr, hen, hf, hch⟩ => ⟨r, ⟨hr, hen, hch⟩, hf⟩⟩

theorem chainOf_of_not_mem_chainNames (rules : List Rule) (chain : String) (h : chain ∉ chainNames rules) :
    chainOf rules chain = [] := by
  simp only [chainNames, List.mem_cons, List.mem_flatMap, List.mem_filter, not_or, not_exists, not_and] at h
  simp only [chainOf, List.map_eq_nil_iff, List.filter_eq_nil_iff, Bool.and_eq_true, Bool.or_eq_true, beq_iff_eq,
    List.contains_iff_mem, not_and, not_or]
  exact fun r hr hen => ⟨h.1, fun hm => h.2 r ⟨hr, hen⟩ hm⟩

theorem lookup_compile (rules : List Rule) (chain : String) :
    lookup (compile rules) chain = chainOf rules chain := by
  unfold lookup compile
  rw [List.find?_map]
  cases h : (chainNames rules).find? ((fun p : String × List Nat => p.1 == chain) ∘ fun c => (c, chainOf rules c)) with
  | some c =>
    have hc : c = chain := by simpa using List.find?_some h
    simp [hc]
  | none =>
    rw [List.find?_eq_none] at h
    exact (chainOf_of_not_mem_chainNames rules chain (fun hm => by simpa using h chain hm)).symm

theorem coherent_of_cache_none (r : Ruler) (h : r.cache = none) : r.Coherent := by
  intro c hc; rw [h] at hc; cases hc

theorem getRules_rules (r : Ruler) (chain : String) : (r.getRules chain).1.rules = r.rules := by
  unfold Ruler.getRules
  cases r.cache <;> rfl

theorem getRules_spec (r : Ruler) (h : r.Coherent) (chain : String) :
    (r.getRules chain).2 = chainOf r.rules chain ∧ (r.getRules chain).1.Coherent
      ∧ (r.getRules chain).1.rules = r.rules := by
  unfold Ruler.getRules
  cases hc : r.cache with
  | some c => exact ⟨h c hc chain, h, rfl⟩
  | none =>
    refine ⟨lookup_compile _ _, ?_, rfl⟩
    intro c hc' ch
    cases hc'
    exact lookup_compile _ _

theorem enableLoopLazy_ign (b : Bool) (l : List (Option String × String)) (r : Ruler) (acc : List String) :
    ∃ x, (enableLoopLazy b true l r acc).2 = .ok x := by
  fun_induction enableLoopLazy b true l r acc with
  | case1 => exact ⟨_, rfl⟩
  | case2 _ _ _ _ _ _ _ _ ih | case4 _ _ _ _ _ _ _ _ ih => exact ih
  | case3 _ _ _ _ _ _ _ h => exact absurd rfl h

theorem step_coherent (r : Ruler) (h : r.Coherent) (op : ROp) : (r.step op).1.Coherent := by
  cases op with
  | push _ _ _ | enable _ _ | enableOnly _ _ | disable _ _ => exact coherent_of_cache_none _ rfl
  | «at» n _ _ | before n _ _ _ | after n _ _ _ =>
    simp only [Ruler.step, Ruler.at, Ruler.before, Ruler.after]
    cases findRule r.rules n with
    | none => exact h
    | some i => exact coherent_of_cache_none _ rfl
  | getRules c => exact (getRules_spec r h c).2.1
  | setLazy b ns =>
    simp only [Ruler.step, Ruler.setLazy]
    obtain ⟨x, hx⟩ := enableLoopLazy_ign b ns { r with cache := none } []
    generalize enableLoopLazy b true ns { r with cache := none } [] = res at hx
    obtain ⟨r', o⟩ := res
    cases hx
    exact coherent_of_cache_none _ rfl

theorem run_coherent (r : Ruler) (h : r.Coherent) (ops : List ROp) : (r.run ops).Coherent := by
  induction ops generalizing r with
  | nil => exact h
  | cons op ops ih => exact ih _ (step_coherent r h op)

/-- the names the loop applies: all known names when `ign`, otherwise the known names before the first unknown one -/
def appliedNames (rules : List Rule) (ign : Bool) : List String → List String
  | [] => []
  | n :: ns =>
    match findRule rules n with
    | some _ => n :: appliedNames rules ign ns
    | none => if ign then appliedNames rules ign ns else []

/-- the name the loop raises `KeyError` for, unless `ign` -/
def firstUnknown (rules : List Rule) : List String → Option String
  | [] => none
  | n :: ns => match findRule rules n with
    | some _ => firstUnknown rules ns
    | none => some n

theorem appliedNames_cons_some {rules : List Rule} {n : String} {i : Nat} (h : findRule rules n = some i) (ign : Bool)
    (ns : List String) : appliedNames rules ign (n :: ns) = n :: appliedNames rules ign ns := by
  simp only [appliedNames, h]

theorem appliedNames_cons_none {rules : List Rule} {n : String} (h : findRule rules n = none) (ign : Bool)
    (ns : List String) : appliedNames rules ign (n :: ns) = if ign then appliedNames rules ign ns else [] := by
  simp only [appliedNames, h]

theorem findRule_congr {rules rules' : List Rule} (h : rules'.map (·.name) = rules.map (·.name)) (n : String) :
    findRule rules' n = findRule rules n := by
  have key : ∀ l : List Rule, findRule l n = (l.map (·.name)).findIdx? (· == n) := fun l => by
    simp [findRule, List.findIdx?_map, Function.comp_def]
  rw [key, key, h]

theorem appliedNames_congr {rules rules' : List Rule} (h : rules'.map (·.name) = rules.map (·.name)) (ign : Bool)
    (ns : List String) : appliedNames rules' ign ns = appliedNames rules ign ns := by
  induction ns with
  | nil => rfl
  | cons m ms ih => simp only [appliedNames, findRule_congr h, ih]

theorem firstUnknown_congr {rules rules' : List Rule} (h : rules'.map (·.name) = rules.map (·.name))
    (ns : List String) : firstUnknown rules' ns = firstUnknown rules ns := by
  induction ns with
  | nil => rfl
  | cons m ms ih => simp only [firstUnknown, findRule_congr h, ih]

theorem appliedNames_ign (rules : List Rule) (names : List String) :
    appliedNames rules true names = names.filter (fun n => (findRule rules n).isSome) := by
  induction names with
  | nil => rfl
  | cons m ms ih =>
    cases hf : findRule rules m with
    | none => simp [appliedNames_cons_none hf, hf, ih]
    | some i => simp [appliedNames_cons_some hf, hf, ih]

theorem setEnabled_length (rules : List Rule) (i : Nat) (b : Bool) :
    (setEnabled rules i b).length = rules.length := by simp [setEnabled]

theorem setEnabled_names (rules : List Rule) (i : Nat) (b : Bool) :
    (setEnabled rules i b).map (·.name) = rules.map (·.name) :=
  map_modify_eq (·.name) (fun x => { x with enabled := b }) (fun _ => rfl) rules i

theorem map_disable_names (rules : List Rule) :
    (rules.map (fun x => { x with enabled := false })).map (·.name) = rules.map (·.name) := by
  simp [Function.comp_def]

theorem enableLoop_names (b ign : Bool) (names : List String) (rules : List Rule) (acc : List String) :
    (enableLoop b ign names rules acc).1.map (·.name) = rules.map (·.name) := by
  fun_induction enableLoop b ign names rules acc with
  | case1 | case3 => rfl
  | case2 _ _ _ _ _ _ ih => exact ih
  | case4 _ _ _ _ i _ ih => exact ih.trans (setEnabled_names _ i b)

theorem enableLoopLazy_names (b ign : Bool) (l : List (Option String × String)) (r : Ruler) (acc : List String) :
    (enableLoopLazy b ign l r acc).1.allRules = r.allRules := by
  have hcb : ∀ (r : Ruler) (cb : Option String),
      (match cb with | some chain => (r.getRules chain).1 | none => r).allRules = r.allRules := by
    intro r cb
    cases cb with
    | none => rfl
    | some c => exact congrArg (List.map (·.name)) (getRules_rules r c)
  fun_induction enableLoopLazy b ign l r acc with
  | case1 => rfl
  | case2 cb _ _ r _ _ _ _ ih => exact ih.trans (hcb r cb)
  | case3 cb _ _ r => exact hcb r cb
  | case4 cb _ _ r _ r1 i _ ih => exact (ih.trans (setEnabled_names r1.rules i b)).trans (hcb r cb)

theorem enableLoop_rules (b ign : Bool) (names : List String) (rules : List Rule) (acc : List String) (j : Nat) :
    ((enableLoop b ign names rules acc).1)[j]? = (rules[j]?).map (fun x =>
        if (appliedNames rules ign names).any (fun n => findRule rules n == some j)
        then { x with enabled := b } else x) := by
  fun_induction enableLoop b ign names rules acc with
  | case1 rules acc => cases rules[j]? <;> rfl
  | case2 n ns rules acc hf hign ih => rw [appliedNames_cons_none hf, if_pos hign]; exact ih
  | case3 n ns rules acc hf hign => rw [appliedNames_cons_none hf, if_neg hign]; cases rules[j]? <;> rfl
  | case4 n ns rules acc i hf ih =>
    have hn := setEnabled_names rules i b
    rw [ih, appliedNames_congr hn, appliedNames_cons_some hf]
    simp only [findRule_congr hn, List.any_cons, hf]
    rw [setEnabled, List.getElem?_modify]
    cases rules[j]? with
    | none => rfl
    | some x =>
      simp only [Option.map_some, Option.map_eq_map]
      by_cases hij : i = j
      · subst hij; simp only [BEq.rfl, Bool.true_or, if_true, ite_self]
      · have : (some i == some j) = false := by simpa using hij
        simp only [if_neg hij, this, Bool.false_or]

/-- what the loop returns: the applied names (after `acc`), or `KeyError` for the first unknown name -/
def loopResult (rules : List Rule) (ign : Bool) (names acc : List String) : Except PyErr (List String) :=
  if ign then .ok (acc ++ appliedNames rules ign names)
  else match firstUnknown rules names with
    | none => .ok (acc ++ appliedNames rules ign names)
    | some n => .error (.keyError n)

theorem enableLoop_result (b ign : Bool) (names : List String) (rules : List Rule) (acc : List String) :
    (enableLoop b ign names rules acc).2 = loopResult rules ign names acc.reverse := by
  unfold loopResult
  fun_induction enableLoop b ign names rules acc with
  | case1 rules acc => cases ign <;> simp [appliedNames, firstUnknown]
  | case2 n ns rules acc hf hign ih => simpa only [appliedNames_cons_none hf, hign, if_true] using ih
  | case3 n ns rules acc hf hign => simp [firstUnknown, hf, hign]
  | case4 n ns rules acc i hf ih =>
    have hn := setEnabled_names rules i b
    rw [ih, appliedNames_congr hn, firstUnknown_congr hn, appliedNames_cons_some hf]
    simp [firstUnknown, hf]

theorem enable_disable_eq (r : Ruler) (b : Bool) (names : List String) (ign : Bool) :
    (if b then r.enable names ign else r.disable names ign)
      = (⟨(enableLoop b ign names r.rules []).1, none⟩, (enableLoop b ign names r.rules []).2) := by
  cases b <;> rfl

theorem setMany_get (m : Rulers) (b : Bool) (names : List String) (ign : Bool) (w : Which) :
    (m.setMany b names ign).1.get w
      = (if b then (m.get w).enable names true else (m.get w).disable names true).1 := by
  cases w <;> rfl

theorem setMany_names (m : Rulers) (b : Bool) (names : List String) (ign : Bool) (w : Which) :
    ((m.setMany b names ign).1.get w).allRules = (m.get w).allRules := by
  rw [setMany_get, enable_disable_eq]
  exact enableLoop_names b true names (m.get w).rules []

end MdIt
