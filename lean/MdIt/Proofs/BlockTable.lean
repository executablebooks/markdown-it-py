import MdIt.BlockTable
import MdIt.Proofs.BlockRules
/-!
# The tokens of a table, as a list

The table rule only pushes tokens (`pushT`), runs its terminator chain, and patches two maps at the end: it never touches the line
tables.  `BState.add` is the form of every state it passes through (tokens appended, `level` moved); `cellToks` … `tableToks` are what
gets appended, as functions of the entry level, the lines and the cell texts, with the two patched maps as arguments (`0` while the
rule runs, the final line once it has returned).
-/
namespace MdIt

theorem modify_two {α} (a : List α) (x : α) (h : List α) (y : α) (r : List α) (f g : α → α) :
    ((a ++ x :: (h ++ y :: r)).modify a.length f).modify (a.length + (h.length + 1)) g = a ++ f x :: (h ++ g y :: r) := by
  rw [modify_append_len, modify_append_right, List.modify_succ_cons, modify_append_len]

/-- the token `pushT` appends to a state at level `lvl`: `pushT` writes `attrs` where `pushFull` writes `markup` and `info`, so
    `tokAt s.level ty tag n [] m c d` is `pushedTok s ty tag n m c d "" ""`; the level is an argument so that the lists below are
    functions of the entry level -/
def tokAt (lvl : Int) (ty tag : String) (n : Int) (attrs : List (String × AttrVal)) (m : Option (Nat × Nat)) (c : Option (List Tok))
    (d : String) : Tok :=
  .mk ty tag n attrs m (if n < 0 then lvl - 1 else lvl) c d "" "" [] true false

@[simp] theorem tokAt_setMap (lvl : Int) (ty tag : String) (n : Int) (a m c d m') :
    (tokAt lvl ty tag n a m c d).setMap m' = tokAt lvl ty tag n a m' c d := rfl

def BState.add (s : BState) (toks : List Tok) (k : Int) : BState := { s with tokens := s.tokens ++ toks, level := s.level + k }

@[simp] theorem BState.add_level (s : BState) (g : List Tok) (k : Int) : (s.add g k).level = s.level + k := rfl
@[simp] theorem BState.add_tokens (s : BState) (g : List Tok) (k : Int) : (s.add g k).tokens = s.tokens ++ g := rfl

theorem BState.add_add (s : BState) (g1 g2 : List Tok) (k1 k2 : Int) : (s.add g1 k1).add g2 k2 = s.add (g1 ++ g2) (k1 + k2) := by
  simp only [BState.add, List.append_assoc, Int.add_assoc]

/-- back at the entry level: the appended tokens replaced (the map fix-ups), `parentType` restored, `line` set -/
theorem BState.add_close (s : BState) (pt : String) (g g' T : List Tok) (n : Nat) (hT : T = s.tokens ++ g') :
    { ({ s with parentType := pt } : BState).add g 0 with tokens := T, parentType := s.parentType, line := n }
      = { s with line := n, tokens := s.tokens ++ g' } := by
  subst hT; simp only [BState.add, Int.add_zero]

theorem pushT_open (s : BState) (ty tag : String) (a m c d) : s.pushT ty tag 1 a m c d = s.add [tokAt s.level ty tag 1 a m c d] 1 := by
  simp [BState.pushT, BState.add, tokAt]

theorem pushT_leaf (s : BState) (ty tag : String) (a m c d) : s.pushT ty tag 0 a m c d = s.add [tokAt s.level ty tag 0 a m c d] 0 := by
  simp [BState.pushT, BState.add, tokAt]

theorem pushT_close (s : BState) (ty tag : String) (a m c d) :
    s.pushT ty tag (-1) a m c d = s.add [tokAt s.level ty tag (-1) a m c d] (-1) := by
  simp [BState.pushT, BState.add, tokAt, Int.sub_eq_add_neg]

/-- the `open inline close` triples of a row from column `i` on, at level `lvl` -/
def cellToks (ws : List Nat) (opn cls tag : String) (line : Nat) (cols : List (List Char)) (lvl : Int) : List String → Nat → List Tok
  | [], _ => []
  | a :: as, i =>
    tokAt lvl opn tag 1 (if a.isEmpty then [] else [("style", AttrVal.s ("text-align:" ++ a))]) none none ""
      :: tokAt (lvl + 1) "inline" "" 0 [] (some (line, line + 1)) (some [])
          (String.ofList (match cols[i]? with | some c => pyStrip ws c | none => []))
      :: tokAt (lvl + 1) cls tag (-1) [] none none "" :: cellToks ws opn cls tag line cols lvl as (i + 1)

theorem pushCells_eq (ws : List Nat) (o c t : String) (line : Nat) (cols : List (List Char)) :
    ∀ (as : List String) (i : Nat) (s : BState), pushCells ws o c t line cols as i s = s.add (cellToks ws o c t line cols s.level as i) 0 := by
  intro as
  induction as with
  | nil => intro i s; simp [pushCells, cellToks, BState.add]
  | cons a rest ih =>
    intro i s
    simp only [pushCells, cellToks, ih, pushT_open, pushT_leaf, pushT_close, BState.add_add, BState.add_level, Int.add_zero]
    rw [show (1 : Int) + -1 = 0 from rfl, Int.add_zero]
    rfl

def rowToks (ws : List Nat) (opn cls tag : String) (aligns : List String) (lvl : Int) (line : Nat) (cols : List (List Char)) : List Tok :=
  tokAt lvl "tr_open" "tr" 1 [] (some (line, line + 1)) none "" :: cellToks ws opn cls tag line cols (lvl + 1) aligns 0
    ++ [tokAt (lvl + 1) "tr_close" "tr" (-1) [] none none ""]

def rowsToks (ws : List Nat) (aligns : List String) (lvl : Int) : Nat → List (List (List Char)) → List Tok
  | _, [] => []
  | line, c :: cs => rowToks ws "td_open" "td_close" "td" aligns lvl line c ++ rowsToks ws aligns lvl (line + 1) cs

def headToks (ws : List Nat) (aligns : List String) (lvl : Int) (line : Nat) (cols : List (List Char)) : List Tok :=
  tokAt lvl "thead_open" "thead" 1 [] (some (line, line + 1)) none "" :: rowToks ws "th_open" "th_close" "th" aligns (lvl + 1) line cols
    ++ [tokAt (lvl + 1) "thead_close" "thead" (-1) [] none none ""]

def bodyToks (ws : List Nat) (aligns : List String) (lvl : Int) (line e : Nat) : List (List (List Char)) → List Tok
  | [] => []
  | rows => tokAt lvl "tbody_open" "tbody" 1 [] (some (line + 2, e)) none "" :: rowsToks ws aligns (lvl + 1) (line + 2) rows
      ++ [tokAt (lvl + 1) "tbody_close" "tbody" (-1) [] none none ""]

/-- a table whose header stands on `line`, pushed at level `lvl`; `e1`, `e2` end the maps of `table_open` and `tbody_open` -/
def tableToks (ws : List Nat) (lvl : Int) (line : Nat) (aligns : List String) (cols : List (List Char)) (rows : List (List (List Char)))
    (e1 e2 : Nat) : List Tok :=
  tokAt lvl "table_open" "table" 1 [] (some (line, e1)) none "" :: (headToks ws aligns (lvl + 1) line cols
    ++ bodyToks ws aligns (lvl + 1) line e2 rows ++ [tokAt (lvl + 1) "table_close" "table" (-1) [] none none ""])

end MdIt
