import MdIt.BlockTable
import MdIt.Proofs.BlockRules
/-!
# What the block chains consist of

`qChain`, `lChain`, `mChain`, `tChain` are indexed by a depth budget and built alike: no rule at budget 0; at budget `d + 1` a fixed
list of leaf rules and the containers `blockquote` / `list`, whose nested runs use the chain at budget `d` (`Tower`).  `Tower.induct`
is the one induction on the budget: a property holds of every rule of every chain once it holds of the leaves and passes from the
runs of one chain to the containers over it.
-/
namespace MdIt

/-- `lst`: whether the family has the list rule -/
inductive ChainRule (mn : Int) (leaves inner : List BRule) (lst : Bool) : BRule → Prop
  | leaf {r : BRule} : r ∈ leaves → ChainRule mn leaves inner lst r
  | quote (codeOn : Bool) {terms : List BRule} : (∀ t ∈ terms, SilentInert t) →
      ChainRule mn leaves inner lst (ruleBlockquote codeOn terms inner mn)
  | list (codeOn : Bool) {terms : List BRule} : lst = true → (∀ t ∈ terms, SilentInert t) →
      ChainRule mn leaves inner lst (ruleList codeOn terms inner mn)

structure Tower (mn : Int) (leaves : List BRule) (lst : Bool) (ch : Nat → List BRule) : Prop where
  zero : ch 0 = []
  /-- a rule at budget `d + 1` is a leaf, or a container over the chain at budget `d` with inert terminators -/
  rule : ∀ d, ∀ r ∈ ch (d + 1), ChainRule mn leaves (ch d) lst r
  /-- the leaves keep the block contract in every call context -/
  leaf_ok : ∀ P, ∀ r ∈ leaves, RuleOK P r
  /-- every chain above budget 0 has a rule that always matches (`paragraph`), so its loop cannot stall -/
  last : ∀ d P, ∃ r ∈ ch (d + 1), AlwaysMatches P r

/-- `C d r`: the property of a rule at budget `d`; `I d`: what the containers need of the runs of `ch d`, which the engine theorem of
    the property (`hrun`) supplies -/
theorem Tower.induct {mn : Int} {leaves : List BRule} {lst : Bool} {ch : Nat → List BRule} (T : Tower mn leaves lst ch)
    {C : Nat → BRule → Prop} {I : Nat → Prop} (hrun : ∀ d, (∀ r ∈ ch d, C d r) → I d) (hleaf : ∀ d, ∀ r ∈ leaves, C (d + 1) r)
    (hquote : ∀ d codeOn terms, (∀ t ∈ terms, SilentInert t) → I d → C (d + 1) (ruleBlockquote codeOn terms (ch d) mn))
    (hlist : lst = true → ∀ d codeOn terms, (∀ t ∈ terms, SilentInert t) → I d → C (d + 1) (ruleList codeOn terms (ch d) mn)) :
    ∀ d, (∀ r ∈ ch d, C d r) ∧ I d := by
  intro d
  induction d with
  | zero =>
    have h0 : ∀ r ∈ ch 0, C 0 r := by rw [T.zero]; nofun
    exact ⟨h0, hrun 0 h0⟩
  | succ d ih =>
    have hall : ∀ r ∈ ch (d + 1), C (d + 1) r := fun r hr => by
      cases T.rule d r hr with
      | leaf h => exact hleaf d r h
      | quote codeOn hin => exact hquote d codeOn _ hin ih.2
      | list codeOn hl hin => exact hlist hl d codeOn _ hin ih.2
    exact ⟨hall, hrun _ hall⟩

/-- the leaf rules of a `MiniCfg`, `paragraph` with the terminators `pt`: `miniChain c ws`, `qLeaves c ws mn` and `lLeaves c ws mn` are
    this list at their terminators, by `rfl` -/
def leaves (c : MiniCfg) (pt : List BRule) (ws : List Nat) : List BRule :=
  (if c.code then [ruleCode c.code] else []) ++ (if c.fence then [ruleFence c.code] else [])
    ++ (if c.hr then [ruleHr c.code] else []) ++ (if c.heading then [ruleHeading c.code ws] else [])
    ++ [ruleParagraph pt ws]

theorem forall_leaves {Q : BRule → Prop} {c : MiniCfg} {pt : List BRule} {ws : List Nat} (hcode : c.code = true → Q (ruleCode c.code))
    (hfence : c.fence = true → Q (ruleFence c.code)) (hhr : c.hr = true → Q (ruleHr c.code))
    (hheading : c.heading = true → Q (ruleHeading c.code ws)) (hpara : Q (ruleParagraph pt ws)) : ∀ r ∈ leaves c pt ws, Q r := by
  simp only [leaves, List.forall_mem_append, forall_mem_opt, List.forall_mem_singleton]
  exact ⟨⟨⟨⟨hcode, hfence⟩, hhr⟩, hheading⟩, hpara⟩

/-- the same with `html_block` and `lheading`: `mLeaves c ws mn` at `mTerminators`; `tLeaves` adds `table`, at `tParaTerms` -/
def leavesM (c : MCfg) (pt : List BRule) (ws : List Nat) : List BRule :=
  (if c.code then [ruleCode c.code] else []) ++ (if c.fence then [ruleFence c.code] else [])
    ++ (if c.hr then [ruleHr c.code] else []) ++ (if c.htmlBlock then [ruleHtmlBlock c.code c.html] else [])
    ++ (if c.heading then [ruleHeading c.code ws] else []) ++ (if c.lheading then [ruleLheading c.code pt ws] else [])
    ++ [ruleParagraph pt ws]

theorem forall_leavesM {Q : BRule → Prop} {c : MCfg} {pt : List BRule} {ws : List Nat} (hmini : ∀ r ∈ leaves c.toMiniCfg pt ws, Q r)
    (hhtml : c.htmlBlock = true → Q (ruleHtmlBlock c.code c.html)) (hlheading : c.lheading = true → Q (ruleLheading c.code pt ws)) :
    ∀ r ∈ leavesM c pt ws, Q r := by
  simp only [leavesM, leaves, List.forall_mem_append, forall_mem_opt, List.forall_mem_singleton] at hmini ⊢
  exact ⟨⟨⟨⟨⟨⟨hmini.1.1.1.1, hmini.1.1.1.2⟩, hmini.1.1.2⟩, hhtml⟩, hmini.1.2⟩, hlheading⟩, hmini.2⟩

/-- `leaves c (qTerminators c ws mn) ws`, by `rfl` -/
def C02.qLeaves (c : MiniCfg) (ws : List Nat) (mn : Int) : List BRule :=
  (if c.code then [ruleCode c.code] else []) ++ (if c.fence then [ruleFence c.code] else [])
    ++ (if c.hr then [ruleHr c.code] else []) ++ (if c.heading then [ruleHeading c.code ws] else [])
    ++ [ruleParagraph (qTerminators c ws mn) ws]

theorem C02.mem_qChain (c : MiniCfg) (ws : List Nat) (mn : Int) (d : Nat) (r : BRule) (h : r ∈ qChain c ws mn (d + 1)) :
    r ∈ qLeaves c ws mn ∨ r = ruleBlockquote c.code (qTerminators c ws mn) (qChain c ws mn d) mn := by
  simp only [qChain, List.mem_append, List.mem_singleton] at h
  simp only [qLeaves, List.mem_append, List.mem_singleton]
  rcases h with ((((h | h) | h) | h) | h) | h
  · exact .inl (.inl (.inl (.inl (.inl h))))
  · exact .inl (.inl (.inl (.inl (.inr h))))
  · exact .inr h
  · exact .inl (.inl (.inl (.inr h)))
  · exact .inl (.inl (.inr h))
  · exact .inl (.inr h)

def C02.lLeaves (c : MiniCfg) (ws : List Nat) (mn : Int) : List BRule := leaves c (lTerminators c ws mn) ws

theorem C02.mem_lChain (c : MiniCfg) (ws : List Nat) (mn : Int) (d : Nat) (r : BRule) (h : r ∈ lChain c ws mn (d + 1)) :
    r ∈ lLeaves c ws mn ∨ r = ruleBlockquote c.code (lTerminators c ws mn) (lChain c ws mn d) mn
      ∨ r = ruleList c.code (lListTerms c mn) (lChain c ws mn d) mn := by
  simp only [lChain, List.mem_append, List.mem_singleton] at h
  simp only [lLeaves, leaves, List.mem_append, List.mem_singleton]
  rcases h with (((((h | h) | h) | h) | h) | h) | h
  · exact .inl (.inl (.inl (.inl (.inl h))))
  · exact .inl (.inl (.inl (.inl (.inr h))))
  · exact .inr (.inl h)
  · exact .inl (.inl (.inl (.inr h)))
  · exact .inr (.inr h)
  · exact .inl (.inl (.inr h))
  · exact .inl (.inr h)

def C02.mLeaves (c : MCfg) (ws : List Nat) (mn : Int) : List BRule := leavesM c (mTerminators c ws mn) ws

theorem C02.mem_mChain (c : MCfg) (ws : List Nat) (mn : Int) (d : Nat) (r : BRule) (h : r ∈ mChain c ws mn (d + 1)) :
    r ∈ mLeaves c ws mn ∨ r = ruleBlockquote c.code (mTerminators c ws mn) (mChain c ws mn d) mn
      ∨ r = ruleList c.code (mListTerms c mn) (mChain c ws mn d) mn := by
  simp only [mChain, List.mem_append, List.mem_singleton] at h
  simp only [mLeaves, leavesM, List.mem_append, List.mem_singleton]
  rcases h with (((((((h | h) | h) | h) | h) | h) | h) | h) | h
  · exact .inl (.inl (.inl (.inl (.inl (.inl (.inl h))))))
  · exact .inl (.inl (.inl (.inl (.inl (.inl (.inr h))))))
  · exact .inr (.inl h)
  · exact .inl (.inl (.inl (.inl (.inl (.inr h)))))
  · exact .inr (.inr h)
  · exact .inl (.inl (.inl (.inl (.inr h))))
  · exact .inl (.inl (.inl (.inr h)))
  · exact .inl (.inl (.inr h))
  · exact .inl (.inr h)

/-- the leaf rules of `tChain` (with `reference` off) -/
def C10.tLeaves (c : TCfg) (ws : List Nat) (mn : Int) : List BRule :=
  (if c.table then [ruleTable c.code (mTerminators c.toMCfg ws mn) ws] else [])
    ++ (if c.code then [ruleCode c.code] else []) ++ (if c.fence then [ruleFence c.code] else [])
    ++ (if c.hr then [ruleHr c.code] else []) ++ (if c.htmlBlock then [ruleHtmlBlock c.code c.html] else [])
    ++ (if c.heading then [ruleHeading c.code ws] else [])
    ++ (if c.lheading then [ruleLheading c.code (tParaTerms c ws mn) ws] else [])
    ++ [ruleParagraph (tParaTerms c ws mn) ws]

theorem C10.forall_tLeaves {Q : BRule → Prop} {c : TCfg} {ws : List Nat} {mn : Int}
    (htable : c.table = true → Q (ruleTable c.code (mTerminators c.toMCfg ws mn) ws))
    (hm : ∀ r ∈ leavesM c.toMCfg (tParaTerms c ws mn) ws, Q r) : ∀ r ∈ tLeaves c ws mn, Q r := by
  simp only [tLeaves, leavesM, List.forall_mem_append, forall_mem_opt, List.forall_mem_singleton] at hm ⊢
  exact ⟨⟨⟨⟨⟨⟨⟨htable, hm.1.1.1.1.1.1⟩, hm.1.1.1.1.1.2⟩, hm.1.1.1.1.2⟩, hm.1.1.1.2⟩, hm.1.1.2⟩, hm.1.2⟩, hm.2⟩

theorem C10.mem_tChain (ext : IExt) (lx : LExt) (c : TCfg) (hnr : c.reference = false) (ws : List Nat) (mn : Int) (d : Nat) (r : BRule)
    (h : r ∈ tChain ext lx c ws mn (d + 1)) :
    r ∈ tLeaves c ws mn ∨ r = ruleBlockquote c.code (mTerminators c.toMCfg ws mn) (tChain ext lx c ws mn d) mn
      ∨ r = ruleList c.code (mListTerms c.toMCfg mn) (tChain ext lx c ws mn d) mn := by
  simp only [tChain, hnr, Bool.false_eq_true, if_false, List.append_nil, List.mem_append, List.mem_singleton] at h
  simp only [tLeaves, List.mem_append, List.mem_singleton]
  rcases h with ((((((((h | h) | h) | h) | h) | h) | h) | h) | h) | h
  · exact .inl (.inl (.inl (.inl (.inl (.inl (.inl (.inl h)))))))
  · exact .inl (.inl (.inl (.inl (.inl (.inl (.inl (.inr h)))))))
  · exact .inl (.inl (.inl (.inl (.inl (.inl (.inr h))))))
  · exact .inr (.inl h)
  · exact .inl (.inl (.inl (.inl (.inl (.inr h)))))
  · exact .inr (.inr h)
  · exact .inl (.inl (.inl (.inl (.inr h))))
  · exact .inl (.inl (.inl (.inr h)))
  · exact .inl (.inl (.inr h))
  · exact .inl (.inr h)

end MdIt
