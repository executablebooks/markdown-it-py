import MdIt.Proofs.Ruler
import MdIt.Props.C11
/-!
# Lemmas for `MarkdownIt.reset_rules` (C14)

On a ruler with distinct rule names, `enableOnly` of a snapshot that is a sub-list of the names restores exactly that active list and
does not raise.  Every ruler operation keeps the rule names it finds, in order, so a snapshot taken on entry stays such a sub-list.
-/
namespace MdIt

theorem findRule_of_mem (rules : List Rule) (n : String) (h : n ∈ rules.map (·.name)) :
    ∃ i, findRule rules n = some i := by
  obtain ⟨r, hr, rfl⟩ := List.mem_map.1 h
  cases hf : findRule rules r.name with
  | some i => exact ⟨i, rfl⟩
  | none => simpa using List.findIdx?_eq_none_iff.1 hf r hr

theorem findRule_of_nodup (rules : List Rule) (hn : (rules.map (·.name)).Nodup) (j : Nat)
    (hj : j < rules.length) (n : String) :
    findRule rules n = some j ↔ rules[j].name = n := by
  unfold findRule
  rw [List.findIdx?_eq_some_iff_getElem]
  constructor
  · rintro ⟨_, h, _⟩; simpa using h
  · intro h
    refine ⟨hj, by simpa using h, ?_⟩
    intro k hk
    simp only [beq_iff_eq]
    intro hkn
    have hk' : k < rules.length := Nat.lt_trans hk hj
    have h1 : (rules.map (·.name))[k]'(by simpa using hk') = (rules.map (·.name))[j]'(by simpa using hj) := by
      simp [hkn, h]
    have := (List.getElem_inj hn).1 h1
    omega

theorem appliedNames_all_known (rules : List Rule) (ign : Bool) (names : List String)
    (h : ∀ n ∈ names, n ∈ rules.map (·.name)) :
    appliedNames rules ign names = names ∧ firstUnknown rules names = none := by
  induction names with
  | nil => exact ⟨rfl, rfl⟩
  | cons n ns ih =>
    obtain ⟨i, hi⟩ := findRule_of_mem rules n (h n (by simp))
    have ih' := ih (fun m hm => h m (by simp [hm]))
    rw [appliedNames_cons_some hi, ih'.1]
    exact ⟨rfl, by simp only [firstUnknown, hi, ih'.2]⟩

theorem enableOnly_nodup (r : Ruler) (names : List String)
    (hn : (r.rules.map (·.name)).Nodup) (hk : ∀ n ∈ names, n ∈ r.rules.map (·.name)) :
    (r.enableOnly names false).1.rules = r.rules.map (fun x => { x with enabled := names.contains x.name })
    ∧ (r.enableOnly names false).2 = .ok names := by
  have hak := appliedNames_all_known r.rules false names hk
  constructor
  · apply List.ext_getElem?
    intro j
    rw [C11.enableOnly_sets, hak.1, List.getElem?_map]
    cases hj : r.rules[j]? with
    | none => rfl
    | some x =>
      obtain ⟨hlt, hx⟩ := List.getElem?_eq_some_iff.1 hj
      simp only [Option.map_some, Option.some.injEq]
      congr 1
      rw [Bool.eq_iff_iff]
      simp only [List.any_eq_true, beq_iff_eq, List.contains_iff_mem, findRule_of_nodup r.rules hn j hlt, hx]
      exact ⟨fun ⟨n, hnm, hf⟩ => hf ▸ hnm, fun hmem => ⟨x.name, hmem, rfl⟩⟩
  · have hd := map_disable_names r.rules
    show (Ruler.enable _ names false).2 = _
    rw [C11.enable_result]
    simp [loopResult, appliedNames_congr hd, firstUnknown_congr hd, hak.1, hak.2]

theorem enableOnly_restores (r : Ruler) (snap : List String)
    (hn : (r.rules.map (·.name)).Nodup) (hs : snap.Sublist (r.rules.map (·.name))) :
    (r.enableOnly snap false).1.activeRules = snap ∧ (r.enableOnly snap false).2 = .ok snap
    ∧ (r.enableOnly snap false).1.allRules = r.allRules := by
  have h := enableOnly_nodup r snap hn (fun n hm => hs.subset hm)
  refine ⟨?_, h.2, C11.enableOnly_keeps_names r snap false⟩
  rw [Ruler.activeRules, h.1, List.filter_map, List.map_map]
  have : (r.rules.filter ((fun x : Rule => x.enabled) ∘ fun x => { x with enabled := snap.contains x.name })).map
      ((fun x : Rule => x.name) ∘ fun x => { x with enabled := snap.contains x.name })
      = (r.rules.map (·.name)).filter (fun a => snap.contains a) := by
    rw [List.filter_map]
    simp [Function.comp_def]
  rw [this]
  exact filter_mem_sublist_of_nodup _ _ hs hn

theorem sublist_insertAt {α} (l : List α) (i : Nat) (x : α) : l.Sublist (insertAt l i x) := by
  conv => lhs; rw [← List.take_append_drop i l]
  exact List.Sublist.append (List.Sublist.refl _) (List.sublist_cons_self _ _)

theorem step_names_sublist (r : Ruler) (op : ROp) : r.allRules.Sublist (r.step op).1.allRules := by
  have of_eq : ∀ {l : List String}, l = r.allRules → r.allRules.Sublist l :=
    fun h => h ▸ List.Sublist.refl _
  cases op with
  | push n f a => simp [Ruler.step, Ruler.push, Ruler.allRules]
  | «at» n f a =>
    simp only [Ruler.step, Ruler.at]
    cases findRule r.rules n with
    | none => exact List.Sublist.refl _
    | some i => exact of_eq (map_modify_eq Rule.name (fun x => { x with fn := f, alt := a }) (fun _ => rfl) r.rules i)
  | before n m f a | after n m f a =>
    simp only [Ruler.step, Ruler.before, Ruler.after]
    cases findRule r.rules n with
    | none => exact List.Sublist.refl _
    | some i => exact (sublist_insertAt _ _ _).map _
  | enable ns ig => exact of_eq (C11.enable_keeps_names r ns ig)
  | enableOnly ns ig => exact of_eq (C11.enableOnly_keeps_names r ns ig)
  | disable ns ig => exact of_eq (C11.disable_keeps_names r ns ig)
  | getRules c => exact of_eq (congrArg (List.map Rule.name) (getRules_rules r c))
  | setLazy b ns =>
    have h := enableLoopLazy_names b true ns { r with cache := none } []
    simp only [Ruler.step, Ruler.setLazy]
    generalize enableLoopLazy b true ns { r with cache := none } [] = res at h
    obtain ⟨r', o⟩ := res
    cases o <;> exact of_eq h

theorem run_names_sublist (r : Ruler) (ops : List ROp) : r.allRules.Sublist (r.run ops).allRules := by
  induction ops generalizing r with
  | nil => exact List.Sublist.refl _
  | cons op ops ih => exact (step_names_sublist r op).trans (ih _)

theorem active_sublist_all (r : Ruler) : r.activeRules.Sublist r.allRules :=
  List.Sublist.map _ List.filter_sublist

end MdIt
