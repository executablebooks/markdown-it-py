import MdIt.BlockRules
import MdIt.Proofs.ListFacts
/-!
# Lemmas about the modelled leaf block rules

What the property files use of the leaf rules and the state operations: `getL` answers exactly inside the line tables; what
`pushFull` leaves alone and appends; `getLinesB` is one `cutOf` per line; the scans of `code` and `fence` are total and bounded;
`fence` and `heading` are a test on the body of their first line followed by an action; when `fence`, `code`, `hr` decline; a
terminator chain whose rules answer in silent mode without touching the state does so itself (`SilentInert`, `SilentInertE`); the
common body of the block parsers (`parseWith`, `blockParse`).
-/
namespace MdIt

theorem BState.FrameEq.lines {s s' : BState} (h : s.FrameEq s') : s'.lines = s.lines := h.1.1
theorem BState.FrameEq.listIndent {s s' : BState} (h : s.FrameEq s') : s'.listIndent = s.listIndent := h.1.2
theorem BState.FrameEq.lineMax {s s' : BState} (h : s.FrameEq s') : s'.lineMax = s.lineMax := h.2.1
theorem BState.FrameEq.blkIndent {s s' : BState} (h : s.FrameEq s') : s'.blkIndent = s.blkIndent := h.2.2.1
theorem BState.FrameEq.level {s s' : BState} (h : s.FrameEq s') : s'.level = s.level := h.2.2.2

theorem getL_ok (s : BState) (i : Nat) (h : i < s.lines.length) : ∃ l, getL s i = .ok l ∧ s.lines[i]? = some l := by
  unfold getL
  cases hq : s.lines[i]? with
  | none => rw [List.getElem?_eq_none_iff] at hq; omega
  | some l => exact ⟨l, rfl, rfl⟩

theorem getL_of_here {s : BState} {i : Nat} {l : BLine} (h : s.lines[i]? = some l) : getL s i = .ok l := by
  unfold getL; rw [h]

theorem here_of_getL {s : BState} {i : Nat} {l : BLine} (h : getL s i = .ok l) : s.lines[i]? = some l := by
  unfold getL at h
  cases hq : s.lines[i]? with
  | none => rw [hq] at h; cases h
  | some x => rw [hq] at h; cases h; rfl

theorem getL_error {s : BState} {i : Nat} {e : PyErr} (h : getL s i = .error e) : s.lines.length ≤ i := by
  obtain ⟨l, hg, _⟩ | hge := (Nat.lt_or_ge i s.lines.length).imp (getL_ok s i) id
  · rw [hg] at h; cases h
  · exact hge

theorem getL_of_le {s : BState} {i : Nat} (h : s.lines.length ≤ i) : getL s i = .error .indexError := by
  unfold getL; rw [List.getElem?_eq_none h]

@[simp] theorem pushFull_lines (s : BState) (a b : String) (n : Int) (m c d e f) : (s.pushFull a b n m c d e f).lines = s.lines := rfl
@[simp] theorem pushFull_lineMax (s : BState) (a b : String) (n : Int) (m c d e f) : (s.pushFull a b n m c d e f).lineMax = s.lineMax := rfl
@[simp] theorem pushFull_blkIndent (s : BState) (a b : String) (n : Int) (m c d e f) : (s.pushFull a b n m c d e f).blkIndent = s.blkIndent := rfl
@[simp] theorem pushFull_line (s : BState) (a b : String) (n : Int) (m c d e f) : (s.pushFull a b n m c d e f).line = s.line := rfl
@[simp] theorem pushFull_parentType (s : BState) (a b : String) (n : Int) (m c d e f) : (s.pushFull a b n m c d e f).parentType = s.parentType := rfl

theorem pushFull_level0 (s : BState) (a b : String) (m c d e f) : (s.pushFull a b 0 m c d e f).level = s.level := by
  simp [BState.pushFull]
theorem pushFull_level_open (s : BState) (a b : String) (m c d e f) : (s.pushFull a b 1 m c d e f).level = s.level + 1 := by
  simp [BState.pushFull]
theorem pushFull_level_close (s : BState) (a b : String) (m c d e f) : (s.pushFull a b (-1) m c d e f).level = s.level - 1 := by
  simp [BState.pushFull]

def pushedTok (s : BState) (type tag : String) (nesting : Int) (map : Option (Nat × Nat)) (children : Option (List Tok))
    (content markup info : String) : Tok :=
  .mk type tag nesting [] map (if nesting < 0 then s.level - 1 else s.level) children content markup info [] true false

theorem pushFull_tokens (s : BState) (a b : String) (n : Int) (m c d e f) :
    (s.pushFull a b n m c d e f).tokens = s.tokens ++ [pushedTok s a b n m c d e f] := rfl

@[simp] theorem pushedTok_map (s : BState) (a b : String) (n : Int) (m c d e f) : (pushedTok s a b n m c d e f).map = m := rfl

theorem pushFull_zero (s : BState) (a b : String) (m c d e f) :
    s.pushFull a b 0 m c d e f = { s with tokens := s.tokens ++ [pushedTok s a b 0 m c d e f] } := by
  simp [BState.pushFull, pushedTok]

/-- the open / inline / close triple that `heading`, `lheading` and `paragraph` push: maps `m1` (open) and `m2` (inline) -/
def tripleToks (s : BState) (tyOpen tyClose tag mk : String) (m1 m2 : Nat × Nat) (content : String) : List Tok :=
  let s1 := s.pushFull tyOpen tag 1 (some m1) none "" mk ""
  let s2 := s1.pushFull "inline" "" 0 (some m2) (some []) content "" ""
  [pushedTok s tyOpen tag 1 (some m1) none "" mk "", pushedTok s1 "inline" "" 0 (some m2) (some []) content "" "",
   pushedTok s2 tyClose tag (-1) none none "" mk ""]

theorem pushFull_triple (s : BState) (tyOpen tyClose tag mk : String) (m1 m2 : Nat × Nat) (content : String) :
    ((s.pushFull tyOpen tag 1 (some m1) none "" mk "").pushFull "inline" "" 0 (some m2) (some []) content "" "").pushFull
        tyClose tag (-1) none none "" mk ""
      = { s with tokens := s.tokens ++ tripleToks s tyOpen tyClose tag mk m1 m2 content } := by
  simp [BState.pushFull, pushedTok, tripleToks]

theorem mem_tripleToks_type {s : BState} {tyOpen tyClose tag mk : String} {m1 m2 : Nat × Nat} {content : String} {t : Tok}
    (h : t ∈ tripleToks s tyOpen tyClose tag mk m1 m2 content) : t.type = tyOpen ∨ t.type = "inline" ∨ t.type = tyClose := by
  simp only [tripleToks, List.mem_cons, List.not_mem_nil, or_false] at h
  rcases h with rfl | rfl | rfl
  · exact .inl rfl
  · exact .inr (.inl rfl)
  · exact .inr (.inr rfl)

namespace C08

/-- what `getLines(…, end, …, keepLastLF)` reads of line `i` -/
def lineChars (s : BState) (end_ : Nat) (keep : Bool) (i : Nat) : List Char :=
  match s.lines[i]? with
  | some l => l.text ++ (if (decide (i + 1 < end_) || keep) && l.hasLF then ['\n'] else [])
  | none => []

/-- the piece of `getLines`' result that comes from line `i` -/
def cutOf (s : BState) (end_ : Nat) (keep : Bool) (indent : Int) (i : Nat) : List Char :=
  match s.lines[i]? with
  | some l => cutLineI (lineChars s end_ keep i) l.tShift l.bs indent
  | none => []

end C08
open C08 (lineChars cutOf)

theorem getLinesGo_eq (s : BState) (end_ : Nat) (indent : Int) (keep : Bool) :
    ∀ (n line : Nat) (acc : List Char), line + n ≤ s.lines.length →
      getLinesGo s end_ indent keep n line acc = .ok (acc ++ ((List.range' line n).map (cutOf s end_ keep indent)).flatten) := by
  intro n
  induction n with
  | zero => intro line acc _; simp [getLinesGo]
  | succ k ih =>
    intro line acc h
    obtain ⟨l, hl, hl'⟩ := getL_ok s line (by omega)
    simp only [getLinesGo, hl]
    rw [ih (line + 1) _ (by omega)]
    simp only [List.range'_succ, List.map_cons, List.flatten_cons, List.append_assoc]
    congr 2
    simp [cutOf, lineChars, hl']

theorem getLinesB_eq (s : BState) (b e : Nat) (indent : Int) (keep : Bool) (h : e ≤ s.lines.length) :
    getLinesB s b e indent keep = .ok ((List.range' b (e - b)).map (cutOf s e keep indent)).flatten := by
  unfold getLinesB
  by_cases hbe : b ≤ e
  · rw [getLinesGo_eq s e indent keep (e - b) b [] (by omega)]; simp
  · have : e - b = 0 := by omega
    rw [this]; simp [getLinesGo]

theorem getLinesB_ok (s : BState) (b e : Nat) (indent : Int) (keep : Bool) (h : e ≤ s.lines.length) :
    ∃ c, getLinesB s b e indent keep = .ok c :=
  ⟨_, getLinesB_eq s b e indent keep h⟩

theorem codeScan_ok (codeOn : Bool) (s : BState) (endLine : Nat) (hlen : endLine < s.lines.length) (fuel next last : Nat) :
    endLine - next < fuel → last ≤ endLine → last ≤ next →
      ∃ r, codeScan codeOn s endLine fuel next last = .ok r ∧ last ≤ r ∧ r ≤ endLine := by
  fun_induction codeScan codeOn s endLine fuel next last <;> intro hf hl hln
  case case1 => omega  -- out of fuel
  case case2 next _ h _ hg => obtain ⟨l, hg', _⟩ := getL_ok s next (by omega); rw [hg'] at hg; cases hg  -- line not in the tables
  case case3 ih => exact ih (by omega) hl (by omega)  -- a blank line: `last` stays
  case case4 ih =>  -- a code-indented line: `last` moves past it
    obtain ⟨r, h1, h2, h3⟩ := ih (by omega) (by omega) (Nat.le_refl _)
    exact ⟨r, h1, by omega, h3⟩
  case case5 | case6 => exact ⟨_, rfl, Nat.le_refl _, hl⟩  -- any other line; the end of the range

/-- the tests `fence` makes on the body of its first line: the marker character, the length of the opening run, the info string -/
def fenceOpen (body : List Char) : Option (Char × Nat × List Char) :=
  if body.length < 3 then none else
  match body with
  | [] => none
  | marker :: _ =>
    if !(marker == '~' || marker == '`') then none else
    let len := (body.takeWhile (· == marker)).length
    if len < 3 then none else
    if marker == '`' && (body.drop len).contains '`' then none else some (marker, len, body.drop len)

/-- `fence` once its opening run is recognised (not silent): the search for the closing fence, and the token -/
def fenceBody (codeOn : Bool) (s : BState) (line endLine : Nat) (l : BLine) (marker : Char) (len : Nat) (params : List Char) :
    Except PyErr (Bool × BState) :=
  match fenceScan codeOn s endLine marker len (endLine - line + 1) line with
  | .error e => .error e
  | .ok (next, have_) =>
    match getLinesB s (line + 1) next l.sCount true with
    | .error e => .error e
    | .ok c =>
      let line' := next + (if have_ then 1 else 0)
      .ok (true, ({ s with line := line' }).pushFull "fence" "code" 0 (some (line, line')) none
                    (String.ofList c) (String.ofList (List.replicate len marker)) (String.ofList params))

theorem ruleFence_eq (codeOn : Bool) (s : BState) (line endLine : Nat) (silent : Bool) {l : BLine} (hg : getL s line = .ok l) :
    ruleFence codeOn s line endLine silent =
      if isCodeLine codeOn s l then .ok (false, s) else
      match fenceOpen l.body with
      | none => .ok (false, s)
      | some (marker, len, params) => if silent then .ok (true, s) else fenceBody codeOn s line endLine l marker len params := by
  unfold ruleFence fenceOpen
  rw [hg]
  refine ite_congr rfl (fun _ => rfl) fun _ => ?_
  by_cases h1 : l.body.length < 3
  · simp only [if_pos h1]
  · simp only [if_neg h1]
    cases l.body with
    | nil => rfl
    | cons m tl =>
      by_cases h2 : (!(m == '~' || m == '`')) = true
      · simp only [if_pos h2]
      · by_cases h3 : (List.takeWhile (fun x => x == m) (m :: tl)).length < 3
        · simp only [if_neg h2, if_pos h3]
        · by_cases h4 : (m == '`' && (List.drop (List.takeWhile (fun x => x == m) (m :: tl)).length (m :: tl)).contains '`') = true
          · simp only [if_neg h2, if_neg h3, if_pos h4]
          · simp only [if_neg h2, if_neg h3, if_neg h4]; rfl

theorem fenceOpen_some {body : List Char} {marker : Char} {len : Nat} {params : List Char} (h : fenceOpen body = some (marker, len, params)) :
    (marker = '~' ∨ marker = '`') ∧ body.head? = some marker ∧ len = (body.takeWhile (· == marker)).length ∧ 3 ≤ len
      ∧ params = body.drop len := by
  unfold fenceOpen at h
  split at h
  · cases h
  · split at h
    · cases h
    · split at h
      · cases h
      · simp only [] at h
        split at h
        · cases h
        · split at h
          · cases h
          · rename_i hm hl _
            cases h
            have hm' : marker = '~' ∨ marker = '`' := by
              rcases Decidable.em (marker = '~') with h1 | h1
              · exact .inl h1
              · exact .inr (by simpa [h1] using hm)
            exact ⟨hm', rfl, rfl, by omega, rfl⟩

theorem fenceScan_ok (codeOn : Bool) (s : BState) (endLine : Nat) (marker : Char) (len : Nat) (hlen : endLine < s.lines.length)
    (fuel prev : Nat) : endLine - prev ≤ fuel → prev < endLine →
      ∃ next b, fenceScan codeOn s endLine marker len fuel prev = .ok (next, b) ∧ prev < next ∧ next ≤ endLine
        ∧ (b = true → next < endLine) := by
  fun_induction fenceScan codeOn s endLine marker len fuel prev <;> intro hf hp
  case case1 => omega  -- out of fuel
  case case3 prev _ h _ hg => obtain ⟨l, hg', _⟩ := getL_ok s (prev + 1) (by omega); rw [hg'] at hg; cases hg  -- line not in the tables
  case case2 | case4 | case6 => exact ⟨_, false, rfl, by omega, by omega, by simp⟩  -- end of range; outdented line; last line without line feed
  case case10 => exact ⟨_, true, rfl, by omega, by omega, fun _ => by omega⟩  -- closing fence
  case case5 ih | case7 ih | case8 ih | case9 ih | case11 ih =>  -- any other line: the search goes on
    obtain ⟨nx, b, h1, h2, h3, h4⟩ := ih (by omega) (by omega)
    exact ⟨nx, b, h1, by omega, h3, h4⟩

/-- the tests `heading` makes on the body of its line: the level, and what follows the opening run -/
def headingOpen (body : List Char) : Option (Nat × List Char) :=
  match body with
  | [] => none
  | c :: _ =>
    if c != '#' then none else
    let k := (body.takeWhile (· == '#')).length
    if k > 6 then none else
    if !headingSep (body.drop k) then none else some (k, body.drop k)

/-- what `heading` does (not silent) once `headingOpen` has answered `(k, after)` -/
def headingPush (ws : List Nat) (s : BState) (line k : Nat) (after : List Char) : BState :=
  let tag := "h" ++ toString k
  let mk := String.ofList (List.replicate k '#')
  let s1 := ({ s with line := line + 1 }).pushFull "heading_open" tag 1 (some (line, line + 1)) none "" mk ""
  let s2 := s1.pushFull "inline" "" 0 (some (line, line + 1)) (some []) (String.ofList (pyStrip ws (headingBody after))) "" ""
  s2.pushFull "heading_close" tag (-1) none none "" mk ""

theorem headingPush_eq (ws : List Nat) (s : BState) (line k : Nat) (after : List Char) :
    headingPush ws s line k after =
      { s with line := line + 1,
               tokens := s.tokens ++ tripleToks s "heading_open" "heading_close" ("h" ++ toString k) (String.ofList (List.replicate k '#'))
                 (line, line + 1) (line, line + 1) (String.ofList (pyStrip ws (headingBody after))) } :=
  pushFull_triple { s with line := line + 1 } ..

theorem ruleHeading_eq (codeOn : Bool) (ws : List Nat) (s : BState) (line endLine : Nat) (silent : Bool) {l : BLine}
    (hg : getL s line = .ok l) :
    ruleHeading codeOn ws s line endLine silent =
      if isCodeLine codeOn s l then .ok (false, s) else
      match headingOpen l.body with
      | none => .ok (false, s)
      | some (k, after) => if silent then .ok (true, s) else .ok (true, headingPush ws s line k after) := by
  unfold ruleHeading headingOpen
  rw [hg]
  refine ite_congr rfl (fun _ => rfl) fun _ => ?_
  cases l.body with
  | nil => rfl
  | cons c tl =>
    by_cases h1 : (c != '#') = true
    · simp only [if_pos h1]
    · by_cases h2 : (List.takeWhile (fun x => x == '#') (c :: tl)).length > 6
      · simp only [if_neg h1, if_pos h2]
      · by_cases h3 : (!headingSep (List.drop (List.takeWhile (fun x => x == '#') (c :: tl)).length (c :: tl))) = true
        · simp only [if_neg h1, if_neg h2, if_pos h3]
        · simp only [if_neg h1, if_neg h2, if_neg h3]; rfl

theorem fence_declines_head (codeOn : Bool) (s : BState) (line endLine : Nat) (silent : Bool) {l : BLine} (hg : getL s line = .ok l)
    (c : Char) (hc : l.body.head? = some c) (h1 : c ≠ '`') (h2 : c ≠ '~') : ruleFence codeOn s line endLine silent = .ok (false, s) := by
  have ho : fenceOpen l.body = none := by
    unfold fenceOpen
    by_cases h3 : l.body.length < 3
    · exact if_pos h3
    · refine (if_neg h3).trans ?_
      cases hb : l.body with
      | nil => rfl
      | cons m cs =>
        obtain rfl : m = c := by rw [hb] at hc; exact Option.some.inj hc
        exact if_pos (by simp [h1, h2])
  rw [ruleFence_eq codeOn s line endLine silent hg, ho]
  exact ite_self _

theorem code_declines (codeOn : Bool) (s : BState) (line endLine : Nat) (silent : Bool) {l : BLine} (hg : getL s line = .ok l)
    (h : isCodeLine codeOn s l = false) : ruleCode codeOn s line endLine silent = .ok (false, s) := by
  simp [ruleCode, hg, h]

theorem hr_declines (codeOn : Bool) (s : BState) (line endLine : Nat) (silent : Bool) {l : BLine} (hg : getL s line = .ok l)
    (h : hrMarkup l.body = none) : ruleHr codeOn s line endLine silent = .ok (false, s) := by
  unfold ruleHr
  rw [hg]
  by_cases hc : isCodeLine codeOn s l = true
  · exact if_pos hc
  · refine (if_neg hc).trans ?_
    rw [h]

/-- asked in silent mode about a line inside the tables, `t` answers (match or not) and hands the state back as it got it -/
def SilentInert (t : BRule) : Prop :=
  ∀ s line endLine, line < s.lines.length → ∃ b, t s line endLine true = .ok (b, s)

theorem runTerminators_same (ts : List BRule) (s : BState) (line endLine : Nat)
    (h : ∀ t ∈ ts, ∃ b, t s line endLine true = .ok (b, s)) : ∃ b, runTerminators ts s line endLine = .ok (b, s) := by
  induction ts with
  | nil => exact ⟨false, rfl⟩
  | cons t rest ih =>
    obtain ⟨b, hb⟩ := h t (by simp)
    simp only [runTerminators, hb]
    cases b with
    | true => exact ⟨true, rfl⟩
    | false => exact ih (fun q hq => h q (by simp [hq]))

theorem runTerminators_inert (ts : List BRule) (h : ∀ t ∈ ts, SilentInert t) (s : BState) (line endLine : Nat)
    (hl : line < s.lines.length) : ∃ b, runTerminators ts s line endLine = .ok (b, s) :=
  runTerminators_same ts s line endLine fun t ht => h t ht s line endLine hl

namespace C01

/-- `SilentInert` is what a terminator that looks at its start line only satisfies.  The table rule reads the *next* line; it is inert
    in this weaker sense: the range it is given ends inside the line tables — which every caller guarantees.  The scans of `paragraph`,
    `lheading` and `reference` need no more of their terminators.  (Suffix `E` in lemma names.) -/
def SilentInertE (t : BRule) : Prop :=
  ∀ s line endLine, line < endLine → endLine < s.lines.length → ∃ b, t s line endLine true = .ok (b, s)

end C01
open C01 (SilentInertE)

theorem inertE_of_inert {ts : List BRule} (h : ∀ t ∈ ts, SilentInert t) : ∀ t ∈ ts, SilentInertE t :=
  fun t ht s line endLine hl hlen => h t ht s line endLine (by omega)

theorem runTerminators_inertE (ts : List BRule) (h : ∀ t ∈ ts, SilentInertE t) (s : BState) (line endLine : Nat)
    (hl : line < endLine) (hlen : endLine < s.lines.length) : ∃ b, runTerminators ts s line endLine = .ok (b, s) :=
  runTerminators_same ts s line endLine fun t ht => h t ht s line endLine hl hlen

theorem paraScan_okE (ts : List BRule) (h : ∀ t ∈ ts, SilentInertE t) (s : BState) (endLine : Nat) (hlen : endLine < s.lines.length) :
    ∀ (fuel next : Nat), endLine - next < fuel → next ≤ endLine →
      ∃ r, paraScan ts endLine fuel next s = .ok (r, s) ∧ next ≤ r ∧ r ≤ endLine := by
  intro fuel next
  revert hlen
  fun_induction paraScan ts endLine fuel next s <;> intro hlen hf hle
  case case1 => omega  -- out of fuel
  case case2 next s hlt _ hg => obtain ⟨l, hg', _⟩ := getL_ok s next (by omega); rw [hg'] at hg; cases hg  -- line not in the tables
  case case3 | case9 => exact ⟨_, rfl, Nat.le_refl _, hle⟩  -- a blank line; the end of the range
  case case4 ih | case5 ih =>  -- a code-indented or a quote-marked (`sCount < 0`) line continues the paragraph
    obtain ⟨r, h1, h2, h3⟩ := ih hlen (by omega) (by omega)
    exact ⟨r, h1, by omega, h3⟩
  case case6 next s hlt _ _ _ _ _ _ hr =>  -- the terminators raise
    obtain ⟨b, hb⟩ := runTerminators_inertE ts h s next endLine hlt hlen
    rw [hb] at hr; cases hr
  case case7 next s hlt _ _ _ _ _ _ hr =>  -- a terminator matches
    obtain ⟨b, hb⟩ := runTerminators_inertE ts h s next endLine hlt hlen
    rw [hb] at hr; cases hr
    exact ⟨_, rfl, Nat.le_refl _, hle⟩
  case case8 next s hlt _ _ _ _ _ _ hr ih =>  -- no terminator matches
    obtain ⟨b, hb⟩ := runTerminators_inertE ts h s next endLine hlt hlen
    rw [hb] at hr; cases hr
    obtain ⟨r, h1, h2, h3⟩ := ih hlen (by omega) (by omega)
    exact ⟨r, h1, by omega, h3⟩

theorem hr_inert (codeOn : Bool) : SilentInert (ruleHr codeOn) := by
  intro s line endLine hl
  obtain ⟨l, hg, _⟩ := getL_ok s line hl
  simp only [ruleHr, hg, if_true]
  split
  · exact ⟨_, rfl⟩
  · split
    · exact ⟨_, rfl⟩
    · exact ⟨_, rfl⟩

theorem heading_inert (codeOn : Bool) (ws : List Nat) : SilentInert (ruleHeading codeOn ws) := by
  intro s line endLine hl
  obtain ⟨l, hg, _⟩ := getL_ok s line hl
  rw [ruleHeading_eq codeOn ws s line endLine true hg]
  split
  · exact ⟨_, rfl⟩
  · split
    · exact ⟨_, rfl⟩
    · exact ⟨_, rfl⟩

theorem fence_inert (codeOn : Bool) : SilentInert (ruleFence codeOn) := by
  intro s line endLine hl
  obtain ⟨l, hg, _⟩ := getL_ok s line hl
  rw [ruleFence_eq codeOn s line endLine true hg]
  split
  · exact ⟨_, rfl⟩
  · split
    · exact ⟨_, rfl⟩
    · exact ⟨_, rfl⟩

theorem miniTerminators_inert (c : MiniCfg) (ws : List Nat) : ∀ t ∈ miniTerminators c ws, SilentInert t := by
  simp only [miniTerminators, List.forall_mem_append, forall_mem_opt]
  exact ⟨⟨fun _ => fence_inert _, fun _ => hr_inert _⟩, fun _ => heading_inert _ _⟩

/-- what `miniParse`, `qParse`, `lParse`, `mParse` are, definitionally (`rfl`), for their chains -/
def parseWith (chain : List BRule) (maxNesting : Int) (src : List Char) : Except PyErr (List Tok) :=
  let s := initBState (normalize src)
  if src.isEmpty then .ok [] else
  match blockTokenize chain maxNesting s 0 s.lineMax with
  | .ok s' => .ok s'.tokens
  | .error e => .error e

/-- what `rParse`, `tParse` are (`rfl`) for their chains: `parseWith` returning the whole final state -/
def blockParse (chain : List BRule) (maxNesting : Int) (src : List Char) : Except PyErr BState :=
  let s := initBState (normalize src)
  if src.isEmpty then .ok s else blockTokenize chain maxNesting s 0 s.lineMax

theorem parseWith_eq (chain : List BRule) (mn : Int) (src : List Char) :
    parseWith chain mn src = (blockParse chain mn src).map (·.tokens) := by
  unfold parseWith blockParse
  by_cases he : src.isEmpty = true
  · simp only [he, if_true]; rfl
  · simp only [he, Bool.false_eq_true, if_false]
    cases blockTokenize chain mn (initBState (normalize src)) 0 (initBState (normalize src)).lineMax <;> rfl

theorem blockParse_total {chain : List BRule} {mn : Int} {src : List Char}
    (h : ∃ s', blockTokenize chain mn (initBState (normalize src)) 0 (initBState (normalize src)).lineMax = .ok s') :
    ∃ st, blockParse chain mn src = .ok st := by
  unfold blockParse
  simp only
  split
  · exact ⟨_, rfl⟩
  · exact h

theorem blockParse_ind {chain : List BRule} {mn : Int} {src : List Char} {st : BState} (Q : BState → Prop)
    (h : blockParse chain mn src = .ok st) (h0 : Q (initBState (normalize src)))
    (h1 : ∀ s', blockTokenize chain mn (initBState (normalize src)) 0 (initBState (normalize src)).lineMax = .ok s' → Q s') : Q st := by
  unfold blockParse at h
  simp only at h
  split at h
  · cases h; exact h0
  · exact h1 _ h

theorem parseWith_total {chain : List BRule} {mn : Int} {src : List Char} (h : ∃ st, blockParse chain mn src = .ok st) :
    ∃ ts, parseWith chain mn src = .ok ts :=
  h.imp' (·.tokens) fun st h => by rw [parseWith_eq, h]; rfl

theorem parseWith_state {chain : List BRule} {mn : Int} {src : List Char} {ts : List Tok} (h : parseWith chain mn src = .ok ts) :
    ∃ st, blockParse chain mn src = .ok st ∧ st.tokens = ts := by
  rw [parseWith_eq] at h
  cases hb : blockParse chain mn src with
  | error e => rw [hb] at h; cases h
  | ok st => rw [hb] at h; cases h; exact ⟨st, rfl, rfl⟩

theorem parseWith_ind {chain : List BRule} {mn : Int} {src : List Char} {ts : List Tok} (Q : List Tok → Prop)
    (h : parseWith chain mn src = .ok ts) (h0 : Q [])
    (h1 : ∀ s', blockTokenize chain mn (initBState (normalize src)) 0 (initBState (normalize src)).lineMax = .ok s' → Q s'.tokens) :
    Q ts := by
  obtain ⟨st, hst, rfl⟩ := parseWith_state h
  exact blockParse_ind (fun st => Q st.tokens) hst h0 h1

end MdIt
