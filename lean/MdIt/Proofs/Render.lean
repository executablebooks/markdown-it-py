import MdIt.Render
import MdIt.Proofs.Dict
/-!
# `renderOne` by kind of token

`renderOne` dispatches on `t.type` through a cascade of string tests.  `kindOf` runs the same cascade once and names the branch
(`RKind`); `renderKind` is the body of each branch; `renderOne_eq`: `renderOne` is `renderKind` at `kindOf t.type`.  Properties of
`renderOne` are then proved by cases on the kind, with no string test in sight.
-/
namespace MdIt

/-- the branches of `renderOne`, one per entry of `RendererHTML.rules` and `other` for the `renderToken` default, each with what
it says about the type string -/
inductive RKind (ty : String) where
  | codeInline (h : ty = "code_inline")
  | codeBlock (h : ty = "code_block")
  | fence (h : ty = "fence")
  | image (h : ty = "image")
  | hardbreak (h : ty = "hardbreak")
  | softbreak (h : ty = "softbreak")
  | text (h : ty = "text")
  | html (h : (ty == "html_block" || ty == "html_inline") = true)
  | definition (h : ty = "definition")
  | other

def kindOf (ty : String) : RKind ty :=
  if h : ty == "code_inline" then .codeInline (eq_of_beq h)
  else if h : ty == "code_block" then .codeBlock (eq_of_beq h)
  else if h : ty == "fence" then .fence (eq_of_beq h)
  else if h : ty == "image" then .image (eq_of_beq h)
  else if h : ty == "hardbreak" then .hardbreak (eq_of_beq h)
  else if h : ty == "softbreak" then .softbreak (eq_of_beq h)
  else if h : ty == "text" then .text (eq_of_beq h)
  else if h : ty == "html_block" || ty == "html_inline" then .html h
  else if h : ty == "definition" then .definition (eq_of_beq h)
  else .other

def codeBlockP (a1 a2 : List (List Char × List Char)) (t : Tok) : List Piece :=
  [.tag false "pre".toList a1 false, .tag false "code".toList a2 false, .text t.content.toList,
   .tag true "code".toList [] false, .tag true "pre".toList [] false, .nl]

def renderKind (x : Ext) (o : ROpts) (prev : Option Tok) {ty : String} (t : Tok) (next : Option Tok) : RKind ty → Except PyErr (List Piece)
  | .codeInline _ =>
    .ok [.tag false "code".toList (attrsP t.attrs) false, .text t.content.toList, .tag true "code".toList [] false]
  | .codeBlock _ => .ok (codeBlockP (attrsP t.attrs) [] t)
  | .fence _ =>
    match x.fenceLang t with
    | some lang =>
      match attrJoinClass t.attrs (o.langPrefix ++ lang) with
      | .error e => .error e
      | .ok a => .ok (codeBlockP [] (attrsP a) t)
    | none => .ok (codeBlockP [] (attrsP t.attrs) t)
  | .image _ => .ok (renderTokenP o prev (setAlt t) next)
  | .hardbreak _ => .ok (br o)
  | .softbreak _ => .ok (if o.breaks then br o else [.nl])
  | .text _ => .ok [.text t.content.toList]
  | .html _ => .ok [.raw t.content.toList]
  | .definition _ => .ok []
  | .other => .ok (renderTokenP o prev t next)

variable {x : Ext} {o : ROpts} {prev : Option Tok} {t : Tok} {next : Option Tok}

theorem renderOne_eq : renderOne x o prev t next = renderKind x o prev t next (kindOf t.type) := by
  unfold kindOf
  -- `renderKind` moves under the cascade, where each branch is the corresponding branch of `renderOne` by computation
  simp only [apply_dite (renderKind x o prev t next)]
  rfl

theorem renderTokenP_mem {p : Piece} (h : p ∈ renderTokenP o prev t next) :
    p = .nl ∨ p = .tag (t.nesting == -1) t.tag.toList (attrsP t.attrs) (t.nesting == 0 && o.xhtmlOut) := by
  unfold renderTokenP at h
  by_cases hh : t.hidden = true
  · rw [if_pos hh] at h; exact absurd h List.not_mem_nil
  rw [if_neg hh] at h
  rcases List.mem_append.1 h with h | h
  · rcases List.mem_append.1 h with h | h
    · cases prev with
      | none => exact absurd h List.not_mem_nil
      | some q => exact .inl (List.mem_singleton.1 (List.mem_ite_nil_right.1 h).2)
    · exact .inr (List.mem_singleton.1 h)
  · exact .inl (List.mem_singleton.1 (List.mem_ite_nil_right.1 h).2)

theorem renderKind_fence_ok {ps : List Piece} {hf : t.type = "fence"} (h : renderKind x o prev t next (.fence hf) = .ok ps) :
    ∃ a, (a = t.attrs ∨ ∃ v, attrJoinClass t.attrs v = .ok a) ∧ ps = codeBlockP [] (attrsP a) t := by
  unfold renderKind at h
  cases hl : x.fenceLang t with
  | none => rw [hl] at h; cases h; exact ⟨_, .inl rfl, rfl⟩
  | some lang =>
    rw [hl] at h
    dsimp only at h
    cases ha : attrJoinClass t.attrs (o.langPrefix ++ lang) with
    | error e => rw [ha] at h; cases h
    | ok a => rw [ha] at h; cases h; exact ⟨a, .inr ⟨_, ha⟩, rfl⟩

theorem seqE_ok {A B : Except PyErr (List Piece)} {ps : List Piece} (h : seqE A B = .ok ps) :
    ∃ p1 p2, A = .ok p1 ∧ B = .ok p2 ∧ ps = p1 ++ p2 := by
  cases A with
  | error e => cases h
  | ok p1 =>
    cases B with
    | error e => cases h
    | ok p2 => cases h; exact ⟨p1, p2, rfl, rfl, rfl⟩

theorem renderOne_image (h : t.type = "image") : renderOne x o prev t next = .ok (renderTokenP o prev (setAlt t) next) := by
  -- not through `renderOne_eq`: evaluating `kindOf "image"` is the slower way to check
  simp [renderOne, h]

theorem setAlt_type (t : Tok) : (setAlt t).type = t.type := by cases t; rfl

theorem setAlt_tag (t : Tok) : (setAlt t).tag = t.tag := by cases t; rfl

theorem setAlt_keys (t : Tok) : ∀ kv ∈ (setAlt t).attrs, kv.1 = "alt" ∨ kv ∈ t.attrs := by
  cases t
  exact fun kv hkv => (mem_dictSet hkv).imp (fun e => by rw [e]) And.left

theorem setAlt_idem (t : Tok) : setAlt (setAlt t) = setAlt t := by
  cases t
  simp only [setAlt, dictSet_idem]

/-- without `renderP`'s test for children: `renderInlineP` of no children is no pieces -/
theorem renderP_cons {rest : List Tok} :
    renderP x o prev (t :: rest) =
      seqE (if t.type == "inline" then renderInlineP x o none (t.children.getD []) else renderOne x o prev t rest.head?)
        (renderP x o (some t) rest) := by
  rw [renderP]
  cases t.children with
  | none => rfl
  | some cs => cases cs <;> rfl

end MdIt
