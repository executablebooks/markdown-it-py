import MdIt.Str
/-! `normNewlines` by equations in rewrite-friendly form; what `normalize` keeps of the source: its characters other than LF, and whether it is empty. -/
namespace MdIt

@[simp] theorem nn_nil : normNewlines [] = [] := rfl

theorem nn_crlf (rest : List Char) : normNewlines ('\r' :: '\n' :: rest) = '\n' :: normNewlines rest := by
  simp [normNewlines]

theorem nn_cr (rest : List Char) (h : rest.head? ≠ some '\n') :
    normNewlines ('\r' :: rest) = '\n' :: normNewlines rest := by
  cases rest with
  | nil => simp [normNewlines]
  | cons d r =>
    have hd : d ≠ '\n' := by intro e; apply h; simp [e]
    rw [normNewlines.eq_3]
    intro r' e
    injection e with e1 _
    exact hd e1

theorem nn_other (c : Char) (rest : List Char) (h : c ≠ '\r') :
    normNewlines (c :: rest) = c :: normNewlines rest := by
  rw [normNewlines.eq_4]
  · intro r e; exact absurd e h
  · intro e; exact absurd e h

theorem normNewlines_mem {c : Char} (hc : c ≠ '\n') (s : List Char) (h : c ∈ normNewlines s) : c ∈ s := by
  fun_induction normNewlines s
  case case1 => exact h
  case case2 ih => exact List.mem_cons_of_mem _ (List.mem_cons_of_mem _ (ih ((List.mem_cons.mp h).resolve_left hc)))
  case case3 ih => exact List.mem_cons_of_mem _ (ih ((List.mem_cons.mp h).resolve_left hc))
  case case4 ih => exact (List.mem_cons.mp h).elim (fun e => e ▸ List.mem_cons_self) (fun h' => List.mem_cons_of_mem _ (ih h'))

/-- `src.isEmpty`, which every parse function tests before it starts, can be read off `normalize src` -/
theorem normalize_isEmpty (s : List Char) : (normalize s).isEmpty = s.isEmpty := by
  unfold normalize normNul
  fun_cases normNewlines s <;> rfl

theorem isEmpty_of_normalize {s s' : List Char} (h : normalize s' = normalize s) : s'.isEmpty = s.isEmpty := by
  rw [← normalize_isEmpty, h, normalize_isEmpty]

end MdIt
