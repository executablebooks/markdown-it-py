import MdIt.Smart
/-! Frame lemmas for the smartquotes model: which `content`s can change. -/
namespace MdIt

theorem setAt_other (cs : List (List Char)) (i j : Nat) (f : List Char → List Char) (h : j ≠ i) :
    (setAt cs i f)[j]? = cs[j]? := by
  simp [setAt, h.symm]

theorem setAt_length (cs : List (List Char)) (i : Nat) (f : List Char → List Char) :
    (setAt cs i f).length = cs.length := by simp [setAt]

/-- a run touches only the contents at indices in `P`; for that the stack must stay in `P`: a closing quote also rewrites its opener's token -/
structure Framed (P : Nat → Prop) (st st' : QState) : Prop where
  same : ∀ j, ¬ P j → st'.contents[j]? = st.contents[j]?
  stackP : ∀ it ∈ st'.stack, P it.token
  len : st'.contents.length = st.contents.length

theorem Framed.refl (P : Nat → Prop) (st : QState) (h : ∀ it ∈ st.stack, P it.token) : Framed P st st :=
  ⟨fun _ _ => rfl, h, rfl⟩

theorem Framed.trans {P : Nat → Prop} {a b c : QState} (h1 : Framed P a b) (h2 : Framed P b c) : Framed P a c :=
  ⟨fun j hj => (h2.same j hj).trans (h1.same j hj), h2.stackP, h2.len.trans h1.len⟩

theorem findOpener_lt (stack : List QItem) (s : Bool) (lvl : Int) (n j : Nat)
    (h : findOpener stack s lvl n = some j) : j < n := by
  fun_induction findOpener stack s lvl n with
  | case1 | case2 | case3 => cases h
  | case4 k => cases h; exact Nat.lt_succ_self _
  | case5 k it _ _ _ ih => exact Nat.lt_succ_of_lt (ih h)

theorem aposAt_framed (P : Nat → Prop) (st : QState) (i idx : Nat) (hi : P i)
    (hst : ∀ it ∈ st.stack, P it.token) : Framed P st (aposAt st i idx) :=
  ⟨fun _ hj => setAt_other _ _ _ _ (fun e => hj (e ▸ hi)), hst, setAt_length _ _ _⟩

theorem tryClose_framed (P : Nat → Prop) (q : Quotes) (i : Nat) (lvl : Int) (st : QState) (idx : Nat)
    (isSingle : Bool) (hi : P i) (hst : ∀ it ∈ st.stack, P it.token)
    (r : QState × List Char × Nat) (h : tryClose q i lvl st idx isSingle = some r) : Framed P st r.1 := by
  revert h
  fun_cases tryClose q i lvl st idx isSingle with
  | case1 | case2 => intro h; cases h
  | case3 _ _ item hitem =>
    intro h
    cases h
    have hPitem : P item.token := hst item (List.mem_of_getElem? hitem)
    refine ⟨fun k hk => ?_, fun it hit => hst it (List.mem_of_mem_take hit), ?_⟩
    · rw [setAt_other _ _ _ _ (fun (e : k = item.token) => hk (e ▸ hPitem)),
        setAt_other _ _ _ _ (fun (e : k = i) => hk (e ▸ hi))]
    · rw [setAt_length, setAt_length]

theorem quoteStep_framed (P : Nat → Prop) (cls : QCls) (q : Quotes) (toks : List Tok) (i : Nat) (lvl : Int)
    (st : QState) (text : List Char) (idx : Nat) (hi : P i) (hst : ∀ it ∈ st.stack, P it.token) :
    Framed P st (quoteStep cls q toks i lvl st text idx).1 := by
  have hapos := aposAt_framed P st i idx hi hst
  have hrefl := Framed.refl P st hst
  fun_cases quoteStep cls q toks i lvl st text idx with
  | case1 isSingle => cases isSingle <;> assumption
  | case2 isSingle _ canClose _ _ r hr =>
    cases canClose with
    | false => cases hr
    | true => exact tryClose_framed P q i lvl st idx isSingle hi hst r hr
  | case3 isSingle =>
    refine ⟨fun _ _ => rfl, fun it hit => ?_, rfl⟩
    rcases List.mem_append.1 hit with h | h
    · exact hst it h
    · cases List.mem_singleton.1 h; exact hi
  | case4 => exact hapos
  | case5 => exact hrefl

theorem quoteLoop2_framed (P : Nat → Prop) (cls : QCls) (q : Quotes) (toks : List Tok) (i : Nat) (lvl : Int)
    (hi : P i) (fuel : Nat) (st : QState) (text : List Char) (pos : Nat)
    (hst : ∀ it ∈ st.stack, P it.token) :
    Framed P st (quoteLoop2 cls q toks i lvl fuel st text pos) := by
  fun_induction quoteLoop2 cls q toks i lvl fuel st text pos with
  | case1 | case2 | case3 => exact Framed.refl P _ hst
  | case4 fuel st text pos _ idx _ st' text' pos' hstep ih =>
    have h1 := quoteStep_framed P cls q toks i lvl st text idx hi hst
    rw [hstep] at h1
    exact h1.trans (ih h1.stackP)

theorem truncStack_sub (stack : List QItem) (lvl : Int) : ∀ it ∈ truncStack stack lvl, it ∈ stack := by
  intro it h
  simp only [truncStack, List.mem_reverse] at h
  have := (List.dropWhile_sublist (fun (it : QItem) => decide (it.level > lvl))).subset h
  simpa using this

theorem truncStack_framed (P : Nat → Prop) (st : QState) (lvl : Int) (hst : ∀ it ∈ st.stack, P it.token) :
    Framed P st { st with stack := truncStack st.stack lvl } :=
  ⟨fun _ _ => rfl, fun it h => hst it (truncStack_sub _ _ it h), rfl⟩

theorem processInlines_framed (cls : QCls) (q : Quotes) (toks : List Tok) (n i : Nat) (st : QState)
    (hst : ∀ it ∈ st.stack, editable toks it.token = true) :
    Framed (fun j => editable toks j = true) st (processInlines cls q toks n i st) := by
  fun_induction processInlines cls q toks n i st with
  | case1 | case2 => exact Framed.refl _ _ hst
  | case3 n i st t ht st1 hed ih =>
    have h1 := truncStack_framed (fun j => editable toks j = true) st t.level hst
    exact h1.trans (ih h1.stackP)
  | case4 n i st t ht st1 hed text st2 ih =>
    have h1 := truncStack_framed (fun j => editable toks j = true) st t.level hst
    have h2 : Framed (fun j => editable toks j = true) st1 st2 :=
      quoteLoop2_framed _ cls q toks i t.level (by simpa using hed) _ st1 text 0 h1.stackP
    exact h1.trans (h2.trans (ih h2.stackP))

end MdIt
