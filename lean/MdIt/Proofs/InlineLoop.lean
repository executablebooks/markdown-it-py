import MdIt.Proofs.TokFields
/-!
# MdIt.Proofs.InlineLoop — induction principles for the loops of the inline parser

Two kinds of statement, each for `runChain` and for the loop of `ParserInline.tokenize`.  The run returns: `runChain_total`, under
per-rule contracts relative to a call context, and `tokenizeLoop_rule`, from what one iteration does.  A run that returns keeps what
every call keeps: `runChain_inv`, `tokenizeLoop_inv`.  The emphasis post-processing gets one induction, for any invariant
(`emphPostGo_ind`); `fragments_join` two: a property of every token (`fragmentsJoin_forall`), a reading of the stream that does not
see the join (`fragmentsJoin_fold`).
-/
namespace MdIt

/-- `C`: what a rule may assume of the state it is called in (a miss hands it on to the next rule); `F`: the frame between entry and
result. -/
theorem runChain_total (C : IState → Prop) (F : IState → IState → Prop) (hrefl : ∀ s, F s s) (htrans : ∀ a b c, F a b → F b c → F a c) :
    ∀ (rules : List IRule), (∀ r ∈ rules, ∀ s, C s → ∃ m s', r s false = .ok (m, s') ∧ F s s' ∧ (m = true → s.pos < s'.pos)
        ∧ (m = false → s'.pos = s.pos ∧ C s')) →
      ∀ s, C s → ∃ m s', runChain rules s = .ok (m, s') ∧ F s s' ∧ (m = true → s.pos < s'.pos) ∧ (m = false → s'.pos = s.pos)
  | [], _, s, _ => ⟨false, s, rfl, hrefl s, nofun, fun _ => rfl⟩
  | r :: rest, hok, s, hc => by
    obtain ⟨m, s1, hr, hf, hp, hm⟩ := hok r List.mem_cons_self s hc
    rw [runChain, hr]
    cases m with
    | true => exact ⟨true, s1, rfl, hf, hp, nofun⟩
    | false =>
      obtain ⟨m2, s2, h2, hf2, hp2, hm2⟩ := runChain_total C F hrefl htrans rest (fun q hq => hok q (List.mem_cons_of_mem _ hq)) s1 (hm rfl).2
      exact ⟨m2, s2, h2, htrans _ _ _ hf hf2, fun h => by have := hp2 h; have := (hm rfl).1; omega, fun h => by rw [hm2 h]; exact (hm rfl).1⟩

theorem runChain_inv {P : IState → Prop} : ∀ (rs : List IRule), (∀ r ∈ rs, ∀ s m s', P s → r s false = .ok (m, s') → P s') →
    ∀ (s : IState) (m : Bool) (s' : IState), P s → runChain rs s = .ok (m, s') → P s'
  | [], _, s, _, _, h0, h => by cases h; exact h0
  | r :: rest, step, s, m, s', h0, h => by
    rw [runChain] at h
    cases hr : r s false with
    | error e => rw [hr] at h; cases h
    | ok v =>
      obtain ⟨m1, s1⟩ := v
      rw [hr] at h
      have h1 := step r List.mem_cons_self s m1 s1 h0 hr
      cases m1 with
      | true => cases h; exact h1
      | false => exact runChain_inv rest (fun q hq => step q (List.mem_cons_of_mem _ hq)) s1 m s' h1 h

/-- The loop of `ParserInline.tokenize`, one iteration (`hstep`) at a time.  The Python loop does not reset its `ok` flag per
iteration: at the nesting limit it goes on with the stale `(ok, s)`, which is harmless as long as a match leaves the level below the
limit (hence `s.level ≥ mn → ok = false`). -/
theorem tokenizeLoop_rule (rules : List IRule) (mn : Int) (end_ : Nat) (J : IState → Prop)
    (hstep : ∀ ok s, J s → s.pos < end_ → (s.level ≥ mn → ok = false) →
      ∃ m s', (if s.level < mn then runChain rules s else .ok (ok, s)) = .ok (m, s')
        ∧ (m = true → s.pos < s'.pos ∧ s'.level < mn ∧ J s')
        ∧ (m = false → ∃ c, s'.src[s'.pos]? = some c ∧ s.pos ≤ s'.pos ∧ J { s' with pending := s'.pending ++ [c], pos := s'.pos + 1 })) :
    ∀ (fuel : Nat) (ok : Bool) (s : IState), J s → end_ - s.pos < fuel → (s.level ≥ mn → ok = false) →
      ∃ s', tokenizeLoop rules mn end_ fuel ok s = .ok s' ∧ J s' ∧ end_ ≤ s'.pos := by
  intro fuel
  induction fuel with
  | zero => intro _ s _ hf; omega
  | succ n ih =>
    intro ok s hJ hf hstale
    rw [tokenizeLoop]
    by_cases hlt : s.pos < end_
    · rw [if_pos hlt]
      obtain ⟨m, s1, hs, htrue, hfalse⟩ := hstep ok s hJ hlt hstale
      rw [hs]
      cases m with
      | true =>
        obtain ⟨hfwd, hlv, hJ1⟩ := htrue rfl
        simp only [if_true]
        by_cases hge : s1.pos ≥ end_
        · rw [if_pos hge]; exact ⟨s1, rfl, hJ1, hge⟩
        · rw [if_neg hge, if_neg (by omega)]
          exact ih true s1 hJ1 (by omega) (fun h => absurd h (by omega))
      | false =>
        obtain ⟨c, hc, hle, hJ2⟩ := hfalse rfl
        simp only [Bool.false_eq_true, if_false]
        rw [hc]
        exact ih false _ hJ2 (by show end_ - (s1.pos + 1) < n; omega) (fun _ => rfl)
    · rw [if_neg hlt]; exact ⟨s, rfl, hJ, by omega⟩

theorem tokenizeLoop_total (rules : List IRule) (mn : Int) (end_ : Nat) (J : IState → Prop)
    (hsrc : ∀ s, J s → end_ ≤ s.src.length)
    (hchar : ∀ s c, J s → J { s with pending := s.pending ++ [c], pos := s.pos + 1 })
    (hchain : ∀ s, J s → s.pos < end_ → ∃ m s', runChain rules s = .ok (m, s') ∧ J s' ∧ s'.level = s.level
      ∧ (m = true → s.pos < s'.pos) ∧ (m = false → s'.pos = s.pos)) :
    ∀ (fuel : Nat) (ok : Bool) (s : IState), J s → end_ - s.pos < fuel → (s.level ≥ mn → ok = false) →
      ∃ s', tokenizeLoop rules mn end_ fuel ok s = .ok s' ∧ J s' := by
  intro fuel ok s hJ hf hstale
  have char (t : IState) (hJt : J t) (ht : t.pos < end_) :
      ∃ c, t.src[t.pos]? = some c ∧ J { t with pending := t.pending ++ [c], pos := t.pos + 1 } :=
    ⟨_, List.getElem?_eq_getElem (Nat.lt_of_lt_of_le ht (hsrc t hJt)), hchar t _ hJt⟩
  obtain ⟨s', h, hJ', _⟩ := tokenizeLoop_rule rules mn end_ J (fun ok s hJ hlt hstale => by
    by_cases hlv : s.level < mn
    · rw [if_pos hlv]
      obtain ⟨m, s1, h1, h2, h3, h4, h5⟩ := hchain s hJ hlt
      refine ⟨m, s1, h1, fun e => ⟨h4 e, by omega, h2⟩, fun e => ?_⟩
      obtain ⟨c, hc, hJc⟩ := char s1 h2 (by rw [h5 e]; exact hlt)
      exact ⟨c, hc, by rw [h5 e]; exact Nat.le_refl _, hJc⟩
    · rw [if_neg hlv]
      obtain rfl : ok = false := hstale (by omega)
      obtain ⟨c, hc, hJc⟩ := char s hJ hlt
      exact ⟨false, s, rfl, nofun, fun _ => ⟨c, hc, Nat.le_refl _, hJc⟩⟩) fuel ok s hJ hf hstale
  exact ⟨s', h, hJ'⟩

theorem tokenizeLoop_inv (rules : List IRule) (mn : Int) (end_ : Nat) (J : IState → Prop)
    (hchar : ∀ s c, J s → J { s with pending := s.pending ++ [c], pos := s.pos + 1 })
    (hchain : ∀ s m s', J s → s.pos < end_ → runChain rules s = .ok (m, s') → J s') :
    ∀ (fuel : Nat) (ok : Bool) (s s' : IState), J s → tokenizeLoop rules mn end_ fuel ok s = .ok s' → J s' := by
  intro fuel ok s s' hJ hr
  have step : ∀ {ok s m s1}, J s → s.pos < end_ → (if s.level < mn then runChain rules s else .ok (ok, s)) = .ok (m, s1) → J s1 := by
    intro ok s m s1 hJ hlt h
    by_cases hlv : s.level < mn
    · rw [if_pos hlv] at h; exact hchain s m s1 hJ hlt h
    · rw [if_neg hlv] at h; cases h; exact hJ
  fun_induction tokenizeLoop rules mn end_ fuel ok s with
  | case1 | case3 | case5 | case7 => cases hr
  | case2 | case9 => cases hr; exact hJ
  | case4 _ _ _ hlt _ _ _ hs => cases hr; exact step hJ hlt hs
  | case6 _ _ _ hlt _ _ _ _ hs ih => exact ih (step hJ hlt hs) hr
  | case8 _ _ _ hlt _ _ _ hs _ c _ ih => exact ih (hchar _ c (step hJ hlt hs)) hr

/-- if the call `x` returned, the state `f a` in its result `a` satisfies `J`; of a call that raised nothing is said -/
def OKI {α : Type} (f : α → IState) (J : IState → Prop) (x : Except PyErr α) : Prop := ∀ a, x = .ok a → J (f a)
theorem oki_error {α : Type} (f : α → IState) (J : IState → Prop) (e : PyErr) : OKI f J (.error e) := fun _ h => by cases h
theorem oki_ok {α : Type} (f : α → IState) (J : IState → Prop) (a : α) (h : J (f a)) : OKI f J (.ok a) := fun _ he => by cases he; exact h

/-- two calls (the same function over two rule chains) end alike, error or result, and the state in a result satisfies `P`; with one
chain on both sides this is `OKI` -/
def Same {α : Type} (st : α → IState) (P : IState → Prop) (x y : Except PyErr α) : Prop := x = y ∧ OKI st P x

section Same
variable {α : Type} {st : α → IState} {P : IState → Prop}

theorem Same.error {e : PyErr} : Same st P (.error e) (.error e) := ⟨rfl, oki_error st P e⟩

theorem Same.ok {a : α} (h : P (st a)) : Same st P (.ok a) (.ok a) := ⟨rfl, oki_ok st P a h⟩

theorem Same.elim {x y : Except PyErr α} (h : Same st P x y) :
    (∃ e, x = .error e ∧ y = .error e) ∨ ∃ a, x = .ok a ∧ y = .ok a ∧ P (st a) := by
  obtain ⟨rfl, hp⟩ := h
  cases x with
  | error e => exact .inl ⟨e, rfl, rfl⟩
  | ok a => exact .inr ⟨a, rfl, rfl, hp a rfl⟩

end Same

/-- `J` is an invariant of the rule `r`, in either mode, matching or not -/
def KeepsI (J : IState → Prop) (r : IRule) : Prop := ∀ s silent, J s → OKI (·.2) J (r s silent)

theorem tokenizeLoop_keepsI {J : IState → Prop} {rs : List IRule} (hJ : ∀ s c, J s → J { s with pending := s.pending ++ [c], pos := s.pos + 1 })
    (hrs : ∀ r ∈ rs, KeepsI J r) (mn : Int) (e : Nat) (fuel : Nat) (ok : Bool) (s : IState) (hj : J s) :
    OKI id J (tokenizeLoop rs mn e fuel ok s) :=
  fun s' h => tokenizeLoop_inv rs mn e J hJ
    (fun s m s' hj _ h => runChain_inv rs (fun r hr s m s' hj h => hrs r hr s false hj (m, s') h) s m s' hj h) fuel ok s s' hj h

theorem tokenize_keepsI {J : IState → Prop} {rs : List IRule} (hJ : ∀ s c, J s → J { s with pending := s.pending ++ [c], pos := s.pos + 1 })
    (hflush : ∀ s, J s → J s.pushPending) (hrs : ∀ r ∈ rs, KeepsI J r) (mn : Int) (s : IState) (hj : J s) : OKI id J (tokenize rs mn s) := by
  unfold tokenize
  cases hl : tokenizeLoop rs mn s.posMax (s.posMax - s.pos + 1) false s with
  | error e => exact oki_error _ _ _
  | ok s1 =>
    have h1 := tokenizeLoop_keepsI hJ hrs mn _ _ false s hj s1 hl
    refine oki_ok _ _ _ ?_
    split
    · exact h1
    · exact hflush s1 h1

/-- `I i ts`: the invariant when the loop stands at delimiter `i` with tokens `ts`.  `hpair` asks for either tag and any markup: which
of `em` / `strong` and what markup is a matter of the run lengths, not of the invariant.  `hclear`: the markers a `strong` pair absorbs. -/
theorem emphPostGo_ind (D : List Delim) (I : Int → List Tok → Prop)
    (hdown : ∀ i i' ts, i' ≤ i → I i ts → I i' ts)
    (hpair : ∀ i ts sd ed (strong : Bool) (mk : String), 0 ≤ i → D[i.toNat]? = some sd → sd.end_ ≠ -1 → D[sd.end_.toNat]? = some ed →
      I i ts →
      I (i - 1) ((ts.modify sd.token.toNat (fun t => t.setEmph (if strong then "strong_open" else "em_open") (if strong then "strong" else "em") 1 mk)).modify
        ed.token.toNat (fun t => t.setEmph (if strong then "strong_close" else "em_close") (if strong then "strong" else "em") (-1) mk)))
    (hclear : ∀ i ts p, I i ts → I i (ts.modify p (fun t => t.setContent ""))) :
    ∀ (fuel : Nat) (i : Int) (ts : List Tok), I i ts → ∃ i', I i' (emphPostGo D fuel i ts) := by
  intro fuel i ts h
  fun_induction emphPostGo D fuel i ts with
  | case1 | case2 | case3 | case6 => exact ⟨_, h⟩
  | case4 _ _ _ _ _ _ _ ih | case5 _ _ _ _ _ _ _ _ ih => exact ih (hdown _ _ _ (by omega) h)
  | case7 _ i ts _ sd hq _ he ed hed isStrong _ mk _ _ _ _ _ ih =>
    exact ih (hdown _ (i - 2) _ (by omega) (hclear _ _ _ (hclear _ _ _ (hpair i ts sd ed isStrong mk (by omega) hq (by simpa using he) hed h))))
  | case8 _ i ts _ sd hq _ he ed hed isStrong _ mk _ _ _ ih => exact ih (hpair i ts sd ed isStrong mk (by omega) hq (by simpa using he) hed h)

theorem fragmentsJoin_forall {N : Tok → Prop} (hl : ∀ t l, N t → N (t.setLevel l)) (hm : ∀ t c, t.type = "text" → N t → N (t.setContent c))
    (level : Int) (ts : List Tok) (h : ∀ t ∈ ts, N t) : ∀ t ∈ fragmentsJoin level ts, N t := by
  fun_induction fragmentsJoin level ts with
  | case1 => exact h
  | case2 level a => exact fun t ht => List.mem_singleton.1 ht ▸ hl a _ (h a List.mem_cons_self)
  | case3 level a b rest _ _ hmerge ih =>
    simp only [Bool.and_eq_true, beq_iff_eq] at hmerge
    exact ih (List.forall_mem_cons.2 ⟨hm b _ hmerge.2 (h b (by simp)), fun u hu => h u (by simp [hu])⟩)
  | case4 level a b rest _ _ _ ih =>
    exact List.forall_mem_cons.2 ⟨hl a _ (h a List.mem_cons_self), ih fun u hu => h u (List.mem_cons_of_mem _ hu)⟩

/-- A reading `F` of the stream that looks at nesting and tag only (`hcons`) and does not see a token of nesting 0 in front of another
(`hdrop`) does not see `fragments_join`: levels are not read, and a `text` token joined into the next one disappears in front of a
token of nesting 0. -/
theorem fragmentsJoin_fold {σ β : Type} (F : σ → List Tok → β)
    (hcons : ∀ st (t u : Tok) (r r' : List Tok), u.nesting = t.nesting → u.tag = t.tag → (∀ st', F st' r' = F st' r) → F st (u :: r') = F st (t :: r))
    (hdrop : ∀ st (t n : Tok) (r : List Tok), t.nesting = 0 → n.nesting = 0 → F st (t :: n :: r) = F st (n :: r))
    (level : Int) (ts : List Tok) (ht : ∀ t ∈ ts, t.type = "text" → t.nesting = 0) : ∀ st, F st (fragmentsJoin level ts) = F st ts := by
  fun_induction fragmentsJoin level ts with
  | case1 => exact fun _ => rfl
  | case2 level t => exact fun st => hcons st t _ [] [] (Tok.setLevel_nesting t _) (Tok.setLevel_tag t _) fun _ => rfl
  | case3 level t n rest lvl level' hmerge ih =>
    intro st
    simp only [Bool.and_eq_true, beq_iff_eq] at hmerge
    have h0 : t.nesting = 0 := ht t (by simp) hmerge.1
    have hn0 : n.nesting = 0 := ht n (by simp) hmerge.2
    rw [ih (fun u hu hty => by
      rcases List.mem_cons.1 hu with rfl | hu
      · rw [Tok.setContent_nesting]; exact hn0
      · exact ht u (by simp [hu]) hty), hdrop st t n rest h0 hn0]
    exact hcons st n _ rest rest (Tok.setContent_nesting n _) (Tok.setContent_tag n _) fun _ => rfl
  | case4 level t n rest lvl level' hmerge ih =>
    exact fun st => hcons st t _ _ _ (Tok.setLevel_nesting t _) (Tok.setLevel_tag t _) (ih fun u hu hty => ht u (List.mem_cons_of_mem _ hu) hty)

end MdIt
