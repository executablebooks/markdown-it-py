import MdIt.Proofs.Literal
import MdIt.Proofs.InlineLoop
import MdIt.Props.C09
/-! The inline loop on backslash-escaped text (C09.inline_literal): loop invariant and step lemmas. -/
namespace MdIt
open C09

theorem escapeAll_append (a b : List Char) : escapeAll (a ++ b) = escapeAll a ++ escapeAll b := by
  simp [escapeAll, List.flatMap_append]

theorem escapeAll_plain (run : List Char) (h : ∀ c ∈ run, isAsciiPunct c = false) : escapeAll run = run := by
  induction run with
  | nil => rfl
  | cons c cs ih =>
    have hc := h c (by simp)
    simp only [escapeAll, List.flatMap_cons, hc, Bool.false_eq_true, if_false, List.cons_append, List.nil_append]
    congr 1
    exact ih (fun x hx => h x (by simp [hx]))

theorem not_terminator (c : Char) (hp : isAsciiPunct c = false) (hn : c ≠ '\n') :
    Gen.terminatorChars.contains c.toNat = false := by
  cases hc : Gen.terminatorChars.contains c.toNat with
  | false => rfl
  | true =>
    have hm : c.toNat ∈ Gen.terminatorChars := by simpa using hc
    rcases terminators_punct c.toNat hm with h | h
    · exfalso; apply hn
      have : c = Char.ofNat c.toNat := by simp
      rw [this, h]
    · rw [Char.ofNat_toNat] at h; rw [hp] at h; cases h

/-- the rules between `text` and `escape` in the chain decline at a backslash without touching the state -/
def DeclinesAtBackslash (m : IRule) : Prop :=
  ∀ s : IState, s.src[s.pos]? = some '\\' → m s false = .ok (false, s)

theorem runChain_declines (mid : List IRule) (hmid : ∀ m ∈ mid, DeclinesAtBackslash m) (tail : List IRule) (s : IState)
    (h0 : s.src[s.pos]? = some '\\') : runChain (mid ++ tail) s = runChain tail s := by
  induction mid with
  | nil => rfl
  | cons m ms ih =>
    simp only [List.cons_append, runChain, hmid m (by simp) s h0]
    exact ih (fun x hx => hmid x (by simp [hx]))

/-- invariant of the loop between units of `escapeAll t0 = escapeAll (pre ++ rest)` -/
structure LitState (t0 pre : List Char) (s : IState) : Prop where
  src : s.src = escapeAll t0
  posMax : s.posMax = s.src.length
  pos : s.pos = (escapeAll pre).length
  level : s.level = 0
  pendingLevel : s.pendingLevel = 0
  delims : s.delims = 0
  lit : ∀ t ∈ s.tokens, IsLit t
  contents : litContents s.tokens ++ s.pending = pre

theorem step_punct (mid post : List IRule) (hmid : ∀ m ∈ mid, DeclinesAtBackslash m) (t0 pre rest : List Char)
    (c : Char) (hc : isAsciiPunct c = true) (ht0 : t0 = pre ++ c :: rest) (s : IState) (h : LitState t0 pre s) :
    ∃ s2, runChain (ruleText :: (mid ++ ruleEscape :: post)) s = .ok (true, s2) ∧ LitState t0 (pre ++ [c]) s2
      ∧ s.pos < s2.pos ∧ s2.delimiters = s.delimiters ∧ s2.metas = s.metas := by
  have hsrc : s.src = escapeAll pre ++ ('\\' :: c :: escapeAll rest) := by
    rw [h.src, ht0, escapeAll_append]
    simp [escapeAll, hc]
  have h0 : s.src[s.pos]? = some '\\' := by
    rw [hsrc, h.pos, List.getElem?_append_right (Nat.le_refl _), Nat.sub_self]; rfl
  have h1 : s.src[s.pos + 1]? = some c := by
    rw [hsrc, h.pos, List.getElem?_append_right (Nat.le_add_right _ _), Nat.add_sub_cancel_left]; rfl
  have hlen : s.pos + 1 < s.src.length := by rw [hsrc, h.pos]; simp
  have hmax : s.pos + 1 < s.posMax := by rw [h.posMax]; exact hlen
  have htext := text_declines_at_backslash s h0
  have hesc := escape_punct s c hc h0 h1 hmax
  refine ⟨{ (s.push "text_special" "" 0 (String.singleton c) (String.ofList ['\\', c]) "escape") with pos := s.pos + 2 }, ?_, ?_, ?_, ?_, ?_⟩
  rotate_left 3
  · show (s.push "text_special" "" 0 (String.singleton c) (String.ofList ['\\', c]) "escape").delimiters = s.delimiters
    rw [push_eq]
  · show (s.push "text_special" "" 0 (String.singleton c) (String.ofList ['\\', c]) "escape").metas = s.metas
    rw [push_eq]
  · simp only [runChain, htext]
    rw [runChain_declines mid hmid _ s h0]
    simp only [runChain, hesc]
  · simp only [push_eq]
    refine ⟨h.src, h.posMax, ?_, h.level, h.level, h.delims, fun t ht => ?_, ?_⟩
    · show s.pos + 2 = _; rw [h.pos, escapeAll_append]; simp [escapeAll, hc]
    · rcases List.mem_append.1 ht with ht | ht
      · exact (List.mem_append.1 ht).elim (h.lit t) (flushed_lit s h.pendingLevel t)
      · rw [List.mem_singleton.1 ht, h.level]; exact isLit_mk (.inr rfl) _ _ _
    · rw [litContents_append, litContents_append, litContents_flushed, h.contents, List.append_nil]
      simp [litContents, mkInlineTok, Tok.content]
  · simp

theorem step_plain (tail : List IRule) (t0 pre run rest2 : List Char) (hrun : run ≠ [])
    (hplain : ∀ c ∈ run, isAsciiPunct c = false ∧ c ≠ '\n')
    (hrest2 : rest2 = [] ∨ ∃ d r, rest2 = d :: r ∧ isAsciiPunct d = true)
    (ht0 : t0 = pre ++ run ++ rest2) (s : IState) (h : LitState t0 pre s) :
    ∃ s2, runChain (ruleText :: tail) s = .ok (true, s2) ∧ LitState t0 (pre ++ run) s2 ∧ s.pos < s2.pos
      ∧ s2.delimiters = s.delimiters ∧ s2.metas = s.metas := by
  have hesc_run : escapeAll run = run := escapeAll_plain run (fun c hc => (hplain c hc).1)
  have hsrc : s.src = escapeAll pre ++ (run ++ escapeAll rest2) := by
    rw [h.src, ht0, escapeAll_append, escapeAll_append, hesc_run, List.append_assoc]
  have hdrop : s.src.drop s.pos = run ++ escapeAll rest2 := by
    rw [hsrc, h.pos]; simp
  have hnot : ∀ c ∈ run, isTerminator c = false :=
    fun c hc => not_terminator c (hplain c hc).1 (hplain c hc).2
  have hlenpos : 0 < run.length := List.length_pos_iff.2 hrun
  have hend : textEnd s = s.pos + run.length := by
    unfold textEnd
    rw [hdrop]
    rcases hrest2 with rfl | ⟨d, r, rfl, hd⟩
    · have : escapeAll ([] : List Char) = [] := rfl
      rw [this, List.append_nil, List.findIdx?_eq_none_iff.2 hnot]
      simp only
      rw [h.posMax, hsrc, h.pos, this]
      simp
    · have he : escapeAll (d :: r) = '\\' :: d :: escapeAll r := by simp [escapeAll, hd]
      rw [he, List.findIdx?_append, List.findIdx?_eq_none_iff.2 hnot, List.findIdx?_cons, if_pos (by decide)]; simp
  have htake : (s.src.take (s.pos + run.length)).drop s.pos = run := by
    rw [hsrc, h.pos, List.take_length_add_append]
    simp
  refine ⟨{ s with pending := s.pending ++ run, pos := s.pos + run.length }, ?_, ?_, ?_, rfl, rfl⟩
  · have hne : (s.pos + run.length == s.pos) = false := by
      simp; omega
    simp only [runChain, ruleText, hend, hne, Bool.false_eq_true, if_false, htake]
  · refine ⟨h.src, h.posMax, ?_, h.level, h.pendingLevel, h.delims, h.lit, ?_⟩
    · simp only; rw [h.pos, escapeAll_append, hesc_run]; simp
    · simp only; rw [← List.append_assoc, h.contents]
  · simp only; omega

theorem escapeAll_length_cons (c : Char) (rest : List Char) : 0 < (escapeAll (c :: rest)).length := by
  simp only [escapeAll, List.flatMap_cons]
  split <;> simp

theorem LitState.pos_lt {t0 pre : List Char} {s : IState} (h : LitState t0 pre s) (c : Char) (rest : List Char)
    (ht0 : t0 = pre ++ c :: rest) : s.pos < s.posMax := by
  rw [h.posMax, h.pos, h.src, ht0, escapeAll_append, List.length_append]
  have := escapeAll_length_cons c rest
  omega

/-- one dispatch of the chain with some of `t0` left: `escape` takes an escaped punctuation character, `text` the maximal run of
plain characters -/
theorem step_literal (mid post : List IRule) (hmid : ∀ m ∈ mid, DeclinesAtBackslash m) (t0 : List Char) (hlf : '\n' ∉ t0)
    (pre : List Char) (c : Char) (rest : List Char) (ht0 : t0 = pre ++ c :: rest) (s : IState) (h : LitState t0 pre s) :
    ∃ s2 pre2 rest2, runChain (ruleText :: (mid ++ ruleEscape :: post)) s = .ok (true, s2) ∧ LitState t0 pre2 s2 ∧ s.pos < s2.pos
      ∧ t0 = pre2 ++ rest2 ∧ s2.delimiters = s.delimiters ∧ s2.metas = s.metas := by
  by_cases hc : isAsciiPunct c = true
  · obtain ⟨s2, h1, h2, h3, h4, h5⟩ := step_punct mid post hmid t0 pre rest c hc ht0 s h
    exact ⟨s2, pre ++ [c], rest, h1, h2, h3, by rw [ht0]; simp, h4, h5⟩
  · have hc' : isAsciiPunct c = false := by simpa using hc
    let run := (c :: rest).takeWhile (fun x => !isAsciiPunct x)
    let r2 := (c :: rest).dropWhile (fun x => !isAsciiPunct x)
    have hsplit : c :: rest = run ++ r2 := (List.takeWhile_append_dropWhile).symm
    have hrun : run ≠ [] := by simp [run, hc']
    have hplain : ∀ x ∈ run, isAsciiPunct x = false ∧ x ≠ '\n' := by
      intro x hx
      have h1 := List.all_eq_true.1 List.all_takeWhile x hx
      have hmem : x ∈ t0 := by
        rw [ht0, hsplit]; simp [hx]
      exact ⟨by simpa using h1, fun e => hlf (e ▸ hmem)⟩
    have hr2 : r2 = [] ∨ ∃ d r, r2 = d :: r ∧ isAsciiPunct d = true := by
      cases hr : r2 with
      | nil => exact Or.inl rfl
      | cons d r =>
        right
        have := List.head?_dropWhile_not (fun x => !isAsciiPunct x) (c :: rest)
        rw [show List.dropWhile _ (c :: rest) = d :: r from hr] at this
        exact ⟨d, r, rfl, by simpa using this⟩
    obtain ⟨s2, h1, h2, h3, h4, h5⟩ := step_plain (mid ++ ruleEscape :: post) t0 pre run r2 hrun hplain hr2
      (by rw [ht0, hsplit, List.append_assoc]) s h
    exact ⟨s2, pre ++ run, r2, h1, h2, h3, by rw [ht0, hsplit, List.append_assoc], h4, h5⟩

/-- the invariant handed to `tokenizeLoop_rule` is `LitState` for some split of `t0`; every iteration is a match -/
theorem loop_literal (mid post : List IRule) (hmid : ∀ m ∈ mid, DeclinesAtBackslash m) (mn : Int) (hmn : 1 ≤ mn)
    (t0 : List Char) (hlf : '\n' ∉ t0) :
    ∀ (n : Nat) (rest pre : List Char) (s : IState) (fuel : Nat) (ok : Bool), rest.length ≤ n → t0 = pre ++ rest →
      LitState t0 pre s → s.posMax - s.pos < fuel →
      ∃ s', tokenizeLoop (ruleText :: (mid ++ ruleEscape :: post)) mn s.posMax fuel ok s = .ok s' ∧ LitState t0 t0 s'
        ∧ s'.delimiters = s.delimiters ∧ s'.metas = s.metas := by
  intro _ rest pre s fuel ok _ ht0 h hf
  have hpm {pre x} (hx : LitState t0 pre x) : x.posMax = s.posMax := by rw [hx.posMax, hx.src, h.posMax, h.src]
  obtain ⟨s', hrun, ⟨⟨pre', rest', hsplit, hs'⟩, hd, hm⟩, hge⟩ :=
    tokenizeLoop_rule (ruleText :: (mid ++ ruleEscape :: post)) mn s.posMax
      (fun x => (∃ pre rest, t0 = pre ++ rest ∧ LitState t0 pre x) ∧ x.delimiters = s.delimiters ∧ x.metas = s.metas)
      (fun ok x ⟨⟨pre, rest, ht0, hx⟩, hd, hm⟩ hlt _ => by
        rw [if_pos (by rw [hx.level]; omega)]
        cases rest with
        | nil =>
          rw [List.append_nil] at ht0
          have : x.pos = x.posMax := by rw [hx.posMax, hx.pos, hx.src, ht0]
          have := hpm hx
          omega
        | cons c rest =>
          obtain ⟨s2, pre2, rest2, h1, h2, h3, h4, h5, h6⟩ := step_literal mid post hmid t0 hlf pre c rest ht0 x hx
          exact ⟨true, s2, h1, fun _ => ⟨h3, by rw [h2.level]; omega, ⟨pre2, rest2, h4, h2⟩, h5.trans hd, h6.trans hm⟩, nofun⟩)
      fuel ok s ⟨⟨pre, rest, ht0, h⟩, rfl, rfl⟩ hf (fun hl => absurd hl (by rw [h.level]; omega))
  refine ⟨s', hrun, ?_, hd, hm⟩
  cases rest' with
  | nil => rw [List.append_nil] at hsplit; rw [← hsplit] at hs'; exact hs'
  | cons c r => have := hs'.pos_lt c r hsplit; have := hpm hs'; omega

end MdIt
