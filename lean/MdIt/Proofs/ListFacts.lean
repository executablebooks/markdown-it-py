/-!
# Facts about lists that several parts of the development use

The optional singletons `if b then [x] else []` of which the rule chains are appended; `List.modify`, with which the block and inline
rules patch a token they pushed earlier; `List.set`, filters, left folds.  Nothing here mentions the model.
-/
namespace MdIt

theorem forall_mem_opt {α : Type} {p : α → Prop} {b : Bool} {x : α} : (∀ r ∈ (if b then [x] else []), p r) ↔ (b = true → p x) := by
  cases b <;> simp

theorem modify_append_right {α} (a b : List α) (j : Nat) (f : α → α) : (a ++ b).modify (a.length + j) f = a ++ b.modify j f := by
  induction a with
  | nil => simp
  | cons x xs ih =>
    simp only [List.cons_append, List.length_cons]
    rw [show xs.length + 1 + j = (xs.length + j) + 1 by omega, List.modify_succ_cons, ih]

theorem modify_append_len {α} (a : List α) (x : α) (r : List α) (f : α → α) : (a ++ x :: r).modify a.length f = a ++ f x :: r :=
  modify_append_right a (x :: r) 0 f

/-- a container patches its opening token once the closing one is pushed -/
theorem modify_wrap {α} (pre : List α) (o c : α) (mid : List α) (f : α → α) :
    (pre ++ [o] ++ mid ++ [c]).modify pre.length f = pre ++ ([f o] ++ mid ++ [c]) := by
  simp only [List.append_assoc, List.cons_append, List.nil_append]
  exact modify_append_len ..

theorem modify_last {α} (f : α → α) (x : α) (A : List α) : (A ++ [x]).modify ((A ++ [x]).length - 1) f = A ++ [f x] := by
  rw [List.length_append, List.length_singleton, Nat.add_sub_cancel]; exact modify_append_len A x [] f

theorem map_modify {α β} (f : α → β) (g : β → β) (g' : α → α) (hg : ∀ t, g (f t) = f (g' t)) (ts : List α) (j : Nat) :
    (ts.map f).modify j g = (ts.modify j g').map f := by
  induction ts generalizing j with
  | nil => simp
  | cons t rest ih =>
    cases j with
    | zero => simp [hg]
    | succ j => simp [ih]

theorem mem_modify {α} (l : List α) (p : Nat) (f : α → α) (x : α) (h : x ∈ l.modify p f) : x ∈ l ∨ ∃ u ∈ l, x = f u := by
  obtain ⟨k, hk⟩ := List.getElem?_of_mem h
  rw [List.getElem?_modify] at hk
  cases hq : l[k]? with
  | none => rw [hq] at hk; cases hk
  | some u =>
    rw [hq] at hk
    simp only [Functor.map, Option.map_some, Option.some.injEq] at hk
    split at hk
    · exact .inr ⟨u, List.mem_of_getElem? hq, hk.symm⟩
    · subst hk; exact .inl (List.mem_of_getElem? hq)

theorem forall_mem_modify {α} {p : α → Prop} {f : α → α} (hf : ∀ x, p x → p (f x)) {l : List α} (i : Nat) (h : ∀ x ∈ l, p x) :
    ∀ x ∈ l.modify i f, p x := fun x hx => by
  rcases mem_modify l i f x hx with h1 | ⟨u, hu, rfl⟩
  · exact h x h1
  · exact hf u (h u hu)

theorem map_modify_eq {α β} (g : α → β) (f : α → α) (h : ∀ x, g (f x) = g x) (l : List α) (i : Nat) :
    (l.modify i f).map g = l.map g :=
  (map_modify g id f (fun t => (h t).symm) l i).symm.trans (List.modify_id i _)

theorem filter_mem_sublist_of_nodup {α} [DecidableEq α] (L S : List α) (hs : S.Sublist L) (hn : L.Nodup) :
    L.filter (fun a => S.contains a) = S := by
  induction hs with
  | slnil => rfl
  | cons a hs ih =>
    rw [List.nodup_cons] at hn
    have : ¬ a ∈ _ := fun h => hn.1 (hs.subset h)
    simpa [List.filter_cons, this] using ih hn.2
  | @cons_cons S' L' a hs ih =>
    rw [List.nodup_cons] at hn
    have hc : L'.filter (fun b => (a :: S').contains b) = L'.filter (fun b => S'.contains b) :=
      List.filter_congr fun b hb => by
        have : b ≠ a := fun e => hn.1 (e ▸ hb)
        simp [this]
    simp only [List.filter_cons, List.contains_cons, BEq.rfl, Bool.true_or, if_true] at hc ⊢
    rw [hc, ih hn.2]

theorem foldl_keeps {α β : Type} (P : β → Prop) (f : β → α → β) : ∀ (l : List α) (b : β), (∀ b, ∀ a ∈ l, P b → P (f b a)) → P b → P (l.foldl f b)
  | [], _, _, hb => hb
  | a :: l, b, h, hb => foldl_keeps P f l _ (fun b x hx => h b x (List.mem_cons_of_mem _ hx)) (h b a List.mem_cons_self hb)

theorem foldl_fixed {α β : Type} (f : β → α → β) (l : List α) (b : β) (h : ∀ a ∈ l, f b a = b) : l.foldl f b = b :=
  foldl_keeps (· = b) f l b (fun _ a ha hb => hb ▸ h a ha) rfl

theorem set_set_self {α} (l : List α) (i : Nat) (x y : α) (h : l[i]? = some y) : (l.set i x).set i y = l := by
  apply List.ext_getElem?
  intro j
  by_cases hj : j = i
  · subst hj
    have hlt : j < l.length := by
      rcases Nat.lt_or_ge j l.length with hc | hc
      · exact hc
      · rw [List.getElem?_eq_none_iff.mpr hc] at h; cases h
    rw [List.getElem?_set_self (by simpa using hlt)]; exact h.symm
  · rw [List.getElem?_set_ne (by omega), List.getElem?_set_ne (by omega)]

theorem dropWhile_id {α} (p : α → Bool) (l : List α) (h : ∀ x ∈ l, p x = false) :
    l.dropWhile p = l := by
  cases l with
  | nil => rfl
  | cons a t => simp [List.dropWhile, h a (by simp)]

theorem mem_append_mono {α} {a a' b b' : List α} (ha : ∀ x ∈ a, x ∈ a') (hb : ∀ x ∈ b, x ∈ b') : ∀ x ∈ a ++ b, x ∈ a' ++ b' :=
  fun x hx => (List.mem_append.mp hx).elim (fun h => List.mem_append.mpr (.inl (ha x h))) (fun h => List.mem_append.mpr (.inr (hb x h)))

theorem mem_ite_on {α} {p q : Prop} [Decidable p] [Decidable q] (hq : q) {l : List α} :
    ∀ x ∈ (if p then l else []), x ∈ (if q then l else []) := by
  intro x hx
  rw [if_pos hq]
  split at hx
  · exact hx
  · cases hx

end MdIt
