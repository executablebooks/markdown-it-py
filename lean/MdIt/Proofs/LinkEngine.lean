import MdIt.Proofs.InlinePush
import MdIt.Proofs.InlineLoop
/-!
# The engine functions that take a rule chain, seen from outside

`tokenizeLoop` uses its chain only through `runChain`, `labelLoop` only through `skipToken`, and `skipToken` runs `runChain` over the
rules wrapped one level down.  So for each loop an invariant of that one call is an invariant of the run, two chains that answer it alike
give the same run (`…_congr`), and `labelLoop` returns if `skipToken` does and moves on.  No contract for the rules is needed.  Last,
a property of every rule of `linkChain` / `imgChain`, at every budget, from the property of each rule.
-/
namespace MdIt

/-- a rule as `skipToken` calls it: in silent mode, one level down -/
def silentDown (r : IRule) : IRule := fun s _ =>
  match r { s with level := s.level + 1 } true with
  | .error e => .error e
  | .ok (ok, s') => .ok (ok, { s' with level := s'.level - 1 })

theorem runSilent_eq : ∀ (rs : List IRule) (s : IState), runSilent rs s = runChain (rs.map silentDown) s
  | [], _ => rfl
  | r :: rest, s => by
    rw [runSilent, List.map_cons, runChain, silentDown]
    cases r { s with level := s.level + 1 } true with
    | error e => rfl
    | ok v =>
      obtain ⟨m, s'⟩ := v
      cases m
      · exact runSilent_eq rest _
      · rfl

theorem forall_mem_down {P : IRule → Prop} {rs : List IRule} (h : ∀ r ∈ rs, P (silentDown r)) : ∀ q ∈ rs.map silentDown, P q :=
  fun _ hq => let ⟨r, hr, e⟩ := List.mem_map.1 hq; e ▸ h r hr

theorem skipToken_shape {chain : List IRule} {mn : Int} {s s' : IState} (h : skipToken chain mn s = .ok s') :
    ∃ s1 p c, (s1 = s ∨ ∃ m, s.level < mn ∧ runSilent chain s = .ok (m, s1)) ∧ s' = { s1 with pos := p, cache := c } := by
  unfold skipToken at h
  split at h
  · cases h; exact ⟨s, _, s.cache, .inl rfl, rfl⟩
  · by_cases hlv : s.level < mn
    · simp only [hlv, if_true] at h
      cases hr : runSilent chain s with
      | error e => rw [hr] at h; cases h
      | ok v =>
        obtain ⟨m, s1⟩ := v
        rw [hr] at h
        cases m <;> (cases h; exact ⟨s1, _, _, .inr ⟨_, hlv, rfl⟩, rfl⟩)
    · simp only [hlv, if_false] at h
      cases h; exact ⟨s, _, _, .inl rfl, rfl⟩

section labelLoop
variable {chain : List IRule} {mn : Int} {dn : Bool} {P : IState → Prop}

theorem labelLoop_inv (step : ∀ s s', P s → s.pos < s.posMax → skipToken chain mn s = .ok s' → s.pos < s'.pos → P s')
    (fuel level : Nat) (s : IState) {r : Int} {s' : IState} (h0 : P s) (h : labelLoop chain mn dn fuel level s = .ok (r, s')) :
    P s' ∧ (r = -1 ∨ (r = s'.pos ∧ s'.pos < s'.posMax)) := by
  fun_induction labelLoop chain mn dn fuel level s with
  | case1 | case2 | case4 | case5 => cases h  -- the errors: out of fuel; no character; `skipToken` raises; `skipToken` does not move
  | case3 _ _ s hlt => cases h; exact ⟨h0, .inr ⟨rfl, hlt⟩⟩  -- the `]` at level 1: the label ends here
  | case6 _ _ s hlt _ _ _ _ s1 hs hp _ _ ih => exact ih (step s s1 h0 hlt hs (by omega)) h  -- a `[` skipped as one character: one level up
  | case7 _ _ s hlt _ _ _ s1 hs hp => cases h; exact ⟨step s _ h0 hlt hs (by omega), .inl rfl⟩  -- a `[` that opens a link, `disableNested`: −1
  | case8 _ _ s hlt _ _ _ _ s1 hs hp _ _ _ ih => exact ih (step s s1 h0 hlt hs (by omega)) h  -- a `[` that opens a link, skipped whole
  | case9 _ _ s hlt _ _ _ _ s1 hs hp _ ih => exact ih (step s s1 h0 hlt hs (by omega)) h  -- any other character (a `]` takes one level off)
  | case10 => cases h; exact ⟨h0, .inl rfl⟩  -- `posMax` reached: −1

/-- `hf`: `parseLinkLabel` starts the loop at `pos = start + 1` with fuel `posMax - start + 1` -/
theorem labelLoop_ok
    (step : ∀ s, P s → s.pos < s.posMax →
      s.pos < s.src.length ∧ ∃ s', skipToken chain mn s = .ok s' ∧ s.pos < s'.pos ∧ s'.posMax = s.posMax ∧ P s')
    (fuel level : Nat) (s : IState) (h0 : P s) (hf : s.posMax - s.pos < fuel) :
    ∃ r s', labelLoop chain mn dn fuel level s = .ok (r, s') ∧ P s' ∧ (r = -1 ∨ (r = s'.pos ∧ s'.pos < s'.posMax)) := by
  have next : ∀ s s1, P s → s.pos < s.posMax → skipToken chain mn s = .ok s1 → s.pos < s1.pos ∧ s1.posMax = s.posMax ∧ P s1 := by
    intro s s1 h0 hlt hs
    obtain ⟨_, s', hs', r⟩ := step s h0 hlt
    rw [hs] at hs'; cases hs'; exact r
  have total : ∃ v, labelLoop chain mn dn fuel level s = .ok v := by
    fun_induction labelLoop chain mn dn fuel level s with
    | case1 => omega  -- out of fuel
    | case2 _ _ s hlt hn => rw [List.getElem?_eq_getElem (step s h0 hlt).1] at hn; cases hn  -- no character at `pos`
    | case3 | case7 | case10 => exact ⟨_, rfl⟩  -- the three returns (cases as in `labelLoop_inv`)
    | case4 _ _ s hlt _ _ _ e he => obtain ⟨_, s', hs, _⟩ := step s h0 hlt; rw [hs] at he; cases he  -- `skipToken` raises
    | case5 _ _ s hlt _ _ _ s1 hs hp => have := next s s1 h0 hlt hs; omega  -- `skipToken` does not move
    | case6 _ _ s hlt _ _ _ _ s1 hs hp _ _ ih => obtain ⟨_, hm, h1⟩ := next s s1 h0 hlt hs; exact ih h1 (by omega)  -- the loop goes on
    | case8 _ _ s hlt _ _ _ _ s1 hs hp _ _ _ ih => obtain ⟨_, hm, h1⟩ := next s s1 h0 hlt hs; exact ih h1 (by omega)
    | case9 _ _ s hlt _ _ _ _ s1 hs hp _ ih => obtain ⟨_, hm, h1⟩ := next s s1 h0 hlt hs; exact ih h1 (by omega)
  obtain ⟨⟨r, s'⟩, h⟩ := total
  exact ⟨r, s', h, labelLoop_inv (fun s s1 h0 hlt hs _ => (next s s1 h0 hlt hs).2.2) fuel level s h0 h⟩

theorem labelLoop_congr {l l' : List IRule}
    (step : ∀ s, P s → s.pos < s.posMax → skipToken l mn s = skipToken l' mn s ∧ ∀ s', skipToken l mn s = .ok s' → P s')
    (fuel level : Nat) (s : IState) (h0 : P s) : labelLoop l mn dn fuel level s = labelLoop l' mn dn fuel level s := by
  induction fuel generalizing level s with
  | zero => rfl
  | succ n ih =>
    simp only [labelLoop]
    by_cases hlt : s.pos < s.posMax
    · obtain ⟨he, hP⟩ := step s h0 hlt
      rw [← he]
      cases hs : skipToken l mn s with
      | error e => rfl
      | ok s' => simp only [ih _ s' (hP s' hs)]
    · simp only [hlt, if_false]

end labelLoop

section tokenizeLoop
variable {mn : Int} {e : Nat} {P : IState → Prop}

theorem tokenizeLoop_congr {l l' : List IRule}
    (chainStep : ∀ s, P s → s.pos < e → runChain l s = runChain l' s ∧ ∀ m s', runChain l s = .ok (m, s') → P s')
    (charStep : ∀ s c, P s → P { s with pending := s.pending ++ [c], pos := s.pos + 1 })
    (fuel : Nat) (ok : Bool) (s : IState) (h0 : P s) : tokenizeLoop l mn e fuel ok s = tokenizeLoop l' mn e fuel ok s := by
  induction fuel generalizing ok s with
  | zero => rfl
  | succ n ih =>
    simp only [tokenizeLoop]
    by_cases hlt : s.pos < e
    · obtain ⟨he, hP⟩ := chainStep s h0 hlt
      rw [← he]
      cases hs : (if s.level < mn then runChain l s else .ok (ok, s)) with
      | error e => rfl
      | ok v =>
        have h1 : P v.2 := by
          split at hs
          · exact hP v.1 v.2 hs
          · cases hs; exact h0
        simp only [ih _ v.2 h1]
        cases v.2.src[v.2.pos]? with
        | none => rfl
        | some c => simp only [ih _ _ (charStep v.2 c h1)]
    · simp only [hlt, if_false]

end tokenizeLoop

section chains
variable {P : IRule → Prop} {cls : QCls} {ext : IExt} {lx : LExt} {mn : Int}

theorem linkChain_forall {newline escape backticks strike emphasis link autolink htmlInline entity : Bool}
    (htext : P ruleText) (hnewline : newline = true → P ruleNewline) (hescape : escape = true → P ruleEscape)
    (hbackticks : backticks = true → P ruleBackticks)
    (hstrike : strike = true → P (ruleStrike cls)) (hemphasis : emphasis = true → P (ruleEmphasis cls))
    (hlink : link = true → ∀ d,
      (∀ r ∈ linkChain cls ext lx newline escape backticks strike emphasis link autolink htmlInline entity mn d, P r) →
      P (ruleLink ext lx mn (linkChain cls ext lx newline escape backticks strike emphasis link autolink htmlInline entity mn d)))
    (hautolink : autolink = true → P (ruleAutolink ext)) (hhtml : htmlInline = true → P (ruleHtmlInline ext))
    (hentity : entity = true → P (ruleEntity ext)) :
    ∀ d : Nat, ∀ r ∈ linkChain cls ext lx newline escape backticks strike emphasis link autolink htmlInline entity mn d, P r := by
  intro d
  induction d with
  | zero => intro r hr; cases hr
  | succ d ih =>
    simp only [linkChain, List.forall_mem_append, forall_mem_opt, List.forall_mem_singleton]
    exact ⟨⟨⟨⟨⟨⟨⟨⟨⟨htext, hnewline⟩, hescape⟩, hbackticks⟩, hstrike⟩, hemphasis⟩, fun h => hlink h d ih⟩, hautolink⟩, hhtml⟩, hentity⟩

theorem imgChain_forall {text newline escape backticks strike emphasis link image autolink htmlInline entity fragJoin : Bool}
    (htext : text = true → P ruleText) (hnewline : newline = true → P ruleNewline) (hescape : escape = true → P ruleEscape)
    (hbackticks : backticks = true → P ruleBackticks)
    (hstrike : strike = true → P (ruleStrike cls)) (hemphasis : emphasis = true → P (ruleEmphasis cls))
    (hlink : link = true → ∀ d inner,
      inner = imgChain cls ext lx text newline escape backticks strike emphasis link image autolink htmlInline entity fragJoin mn d →
      (∀ r ∈ inner, P r) → P (ruleLink ext lx mn inner))
    (himage : image = true → ∀ d inner,
      inner = imgChain cls ext lx text newline escape backticks strike emphasis link image autolink htmlInline entity fragJoin mn d →
      (∀ r ∈ inner, P r) → P (ruleImage ext lx mn inner (inlineParse inner (imgPost strike emphasis) fragJoin mn)))
    (hautolink : autolink = true → P (ruleAutolink ext)) (hhtml : htmlInline = true → P (ruleHtmlInline ext))
    (hentity : entity = true → P (ruleEntity ext)) :
    ∀ d : Nat, ∀ r ∈ imgChain cls ext lx text newline escape backticks strike emphasis link image autolink htmlInline entity fragJoin mn d,
      P r := by
  intro d
  induction d with
  | zero => intro r hr; cases hr
  | succ d ih =>
    simp only [imgChain, List.forall_mem_append, forall_mem_opt]
    exact ⟨⟨⟨⟨⟨⟨⟨⟨⟨⟨htext, hnewline⟩, hescape⟩, hbackticks⟩, hstrike⟩, hemphasis⟩,
      fun h => hlink h d _ rfl ih⟩, fun h => himage h d _ rfl ih⟩, hautolink⟩, hhtml⟩, hentity⟩

end chains

end MdIt
