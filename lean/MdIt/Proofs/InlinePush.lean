import MdIt.Proofs.ListFacts
import MdIt.InlineImage
import MdIt.Tree
/-!
# MdIt.Proofs.InlinePush — what the `state.push(…)` calls of an inline rule do to the state, exactly

Every inline rule but `link` and `image` ends in a short script of pushes (`POp`, `runOps`); the state afterwards is the flushed
pending text and one token per step appended, one record per step that has one, `level` and `pendingLevel` shifted by the nestings,
nothing else written (`runOps_eq`, for a script that is not empty).  The push loops of `emphasis` and `strikethrough` and the three
pushes of `autolink` are scripts; the pushes of `link` and `image` (a delimiter scope opened, closed) are given in the same exact form.
-/
namespace MdIt

/-- a delimiter record as a rule hands it to `state.delimiters.append`: all but the index of the token just pushed -/
structure DRec where
  marker : Nat
  length : Nat
  open_ : Bool
  close : Bool

def DRec.at (d : DRec) (token : Int) : Delim :=
  { marker := d.marker, length := d.length, token := token, end_ := -1, open_ := d.open_, close := d.close }

/-- one `state.push(type, tag, nesting)` with what the rule writes on the token and the record it appends for it, if any -/
structure POp where
  type : String
  tag : String
  nesting : Int
  content : String
  markup : String
  info : String
  attrs : Option (List (String × AttrVal)) := none
  delim : Option DRec := none

def POp.plain (type tag content markup info : String) : POp :=
  { type := type, tag := tag, nesting := 0, content := content, markup := markup, info := info }

def POp.tok (op : POp) (level : Int) : Tok :=
  match op.attrs with
  | none => mkInlineTok op.type op.tag op.nesting level op.content op.markup op.info
  | some a => (mkInlineTok op.type op.tag op.nesting level op.content op.markup op.info).setAttrs' a

def POp.run (op : POp) (s : IState) : IState :=
  let s1 := match op.attrs with
    | none => s.push op.type op.tag op.nesting op.content op.markup op.info
    | some a => s.pushA op.type op.tag op.nesting a op.content op.markup op.info
  match op.delim with
  | none => s1
  | some d => { s1 with delimiters := s1.delimiters ++ [d.at ((s1.tokens.length : Int) - 1)] }

def runOps : List POp → IState → IState
  | [], s => s
  | op :: rest, s => runOps rest (op.run s)

theorem runOps_append : ∀ (a b : List POp) (s : IState), runOps (a ++ b) s = runOps b (runOps a s)
  | [], _, _ => rfl
  | _ :: a, b, _ => runOps_append a b _

/-- the pending text as `push` flushes it -/
def flushed (s : IState) : List Tok :=
  if s.pending.isEmpty then [] else [mkInlineTok "text" "" 0 s.pendingLevel (String.ofList s.pending) "" ""]

theorem mem_flushed {s : IState} {t : Tok} :
    t ∈ flushed s ↔ ¬ s.pending.isEmpty = true ∧ t = mkInlineTok "text" "" 0 s.pendingLevel (String.ofList s.pending) "" "" := by
  unfold flushed; rw [List.mem_ite_nil_left, List.mem_singleton]

/-- the level `push` gives a token of nesting `n` at state level `l`, and the state level after it -/
def tokLevel (l n : Int) : Int := if n < 0 then l - 1 else l
def nextLevel (l n : Int) : Int := if n > 0 then tokLevel l n + 1 else tokLevel l n

def opToks : Int → List POp → List Tok
  | _, [] => []
  | l, op :: rest => op.tok (tokLevel l op.nesting) :: opToks (nextLevel l op.nesting) rest

def opLevel : Int → List POp → Int
  | l, [] => l
  | l, op :: rest => opLevel (nextLevel l op.nesting) rest

/-- the records of a script whose first token gets index `i` -/
def opRecs : Nat → List POp → List Delim
  | _, [] => []
  | i, op :: rest => (match op.delim with | none => [] | some d => [d.at i]) ++ opRecs (i + 1) rest

theorem push_eq (s : IState) (ty tag : String) (n : Int) (c m i : String) : s.push ty tag n c m i = { s with
    tokens := s.tokens ++ flushed s ++ [mkInlineTok ty tag n (tokLevel s.level n) c m i], pending := [],
    level := nextLevel s.level n, pendingLevel := nextLevel s.level n } := by
  unfold IState.push IState.pushPending flushed nextLevel tokLevel
  by_cases h : s.pending.isEmpty = true
  · have : s.pending = [] := List.isEmpty_iff.1 h
    cases s
    simp_all
  · simp only [h]
    simp

theorem POp.run_eq (op : POp) (s : IState) : op.run s = { s with
    tokens := s.tokens ++ flushed s ++ [op.tok (tokLevel s.level op.nesting)], pending := [],
    level := nextLevel s.level op.nesting, pendingLevel := nextLevel s.level op.nesting,
    delimiters := s.delimiters ++ opRecs (s.tokens.length + (flushed s).length) [op] } := by
  have hlen : ∀ x : Tok, (((s.tokens ++ flushed s ++ [x]).length : Nat) : Int) - 1 = ((s.tokens.length + (flushed s).length : Nat) : Int) := by
    intro x; simp only [List.length_append, List.length_singleton]; omega
  obtain ⟨ty, tag, n, c, m, i, attrs, delim⟩ := op
  cases attrs <;> cases delim <;>
    simp only [POp.run, POp.tok, IState.pushA, push_eq, opRecs, modify_last, hlen, List.append_nil]

theorem runOps_eq : ∀ (ops : List POp) (s : IState), ops ≠ [] → runOps ops s = { s with
    tokens := s.tokens ++ flushed s ++ opToks s.level ops, pending := [], level := opLevel s.level ops,
    pendingLevel := opLevel s.level ops, delimiters := s.delimiters ++ opRecs (s.tokens.length + (flushed s).length) ops }
  | [op], s, _ => by rw [runOps, runOps, POp.run_eq]; rfl
  | op :: op' :: rest, s, _ => by
    rw [runOps, POp.run_eq, runOps_eq (op' :: rest) _ (List.cons_ne_nil _ _)]
    simp [flushed, opToks, opLevel, opRecs, Nat.add_assoc]

theorem POp.tok_nesting (op : POp) (l : Int) : (op.tok l).nesting = op.nesting := by
  unfold POp.tok; split <;> rfl

theorem POp.tok_type (op : POp) (l : Int) : (op.tok l).type = op.type := by
  unfold POp.tok; split <;> rfl

theorem opToks_getElem? {op : POp} : ∀ (ops : List POp) (j : Nat) (l : Int), ops[j]? = some op → ∃ l', (opToks l ops)[j]? = some (op.tok l')
  | _ :: _, 0, l, h => ⟨tokLevel l _, by cases h; rfl⟩
  | _ :: rest, j + 1, l, h => opToks_getElem? rest j _ (by simpa using h)

theorem mem_opToks : ∀ {ops : List POp} {l : Int} {t : Tok}, t ∈ opToks l ops → ∃ op ∈ ops, ∃ l', t = op.tok l'
  | op :: _, _, _, h => by
    rcases List.mem_cons.1 h with rfl | h
    · exact ⟨op, List.mem_cons_self, _, rfl⟩
    · obtain ⟨op', hm, e⟩ := mem_opToks h; exact ⟨op', List.mem_cons_of_mem _ hm, e⟩

theorem mem_opRecs : ∀ {ops : List POp} {i : Nat} {d : Delim}, d ∈ opRecs i ops →
    ∃ (j : Nat) (op : POp) (dr : DRec), ops[j]? = some op ∧ op.delim = some dr ∧ d = dr.at ((i + j : Nat) : Int)
  | op :: rest, i, d, h => by
    rcases List.mem_append.1 h with h | h
    · cases hd : op.delim with
      | none => rw [hd] at h; cases h
      | some dr => rw [hd, List.mem_singleton] at h; exact ⟨0, op, dr, rfl, hd, h⟩
    · obtain ⟨j, op', dr, a, b, c⟩ := mem_opRecs h
      exact ⟨j + 1, op', dr, a, b, by rw [c]; congr 2; omega⟩

theorem opRecs_pairwise : ∀ (ops : List POp) (i : Nat), (opRecs i ops).Pairwise (fun a b => a.token < b.token)
  | [], _ => List.Pairwise.nil
  | op :: rest, i => by
    refine List.pairwise_append.2 ⟨?_, opRecs_pairwise rest (i + 1), fun a ha b hb => ?_⟩
    · split <;> simp
    · obtain ⟨j, _, dr, _, _, rfl⟩ := mem_opRecs hb
      cases hd : op.delim with
      | none => rw [hd] at ha; cases ha
      | some dr' => rw [hd, List.mem_singleton] at ha; subst ha; show (i : Int) < ((i + 1 + j : Nat) : Int); omega

/-- the depth bookkeeping of `balancedFrom` on the nestings of a script -/
def opsBal : Int → List POp → Bool
  | d, [] => d == 0
  | d, op :: rest => (op.nesting == 0 || op.nesting == 1 || op.nesting == -1) && (0 ≤ d + op.nesting) && opsBal (d + op.nesting) rest

theorem balancedFrom_opToks : ∀ (ops : List POp) (d l : Int), balancedFrom d (opToks l ops) = opsBal d ops
  | [], _, _ => rfl
  | op :: rest, d, l => by simp only [opToks, balancedFrom, opsBal, POp.tok_nesting, balancedFrom_opToks rest]

theorem opLevel_of_bal : ∀ (ops : List POp) (d l : Int), opsBal d ops = true → opLevel l ops = l - d
  | [], d, l, h => by have : d = 0 := by simpa [opsBal] using h
                      subst this; exact (Int.sub_zero l).symm
  | op :: rest, d, l, h => by
    simp only [opsBal, Bool.and_eq_true, Bool.or_eq_true, beq_iff_eq] at h
    rw [opLevel, opLevel_of_bal rest _ _ h.2]
    unfold nextLevel tokLevel
    rcases h.1.1 with (e | e) | e <;> rw [e] <;> simp <;> omega

theorem opsBal_zero : ∀ (ops : List POp), (∀ op ∈ ops, op.nesting = 0) → opsBal 0 ops = true
  | [], _ => rfl
  | op :: rest, h => by
    have h0 := h op List.mem_cons_self
    simp only [opsBal, h0]
    exact opsBal_zero rest fun o ho => h o (List.mem_cons_of_mem _ ho)

/-- the effect of a script of pushes that closes what it opens (`runOps_appended`): tokens `seg` and records `recs` are appended.
`level` is unchanged because the script is balanced (`opLevel_of_bal`); the other fields named here no push touches.  `pos`, `pending`,
`pendingLevel`, `delims`, the backtick cache and `linkLevel` are not spoken of -/
structure Appended (s s' : IState) (seg : List Tok) (recs : List Delim) : Prop where
  src : s'.src = s.src
  posMax : s'.posMax = s.posMax
  level : s'.level = s.level
  cache : s'.cache = s.cache
  scopes : s'.scopes = s.scopes
  openAt : s'.openAt = s.openAt
  metas : s'.metas = s.metas
  tokens : s'.tokens = s.tokens ++ seg
  delimiters : s'.delimiters = s.delimiters ++ recs

theorem Appended.refl (s : IState) : Appended s s [] [] :=
  ⟨rfl, rfl, rfl, rfl, rfl, rfl, rfl, (List.append_nil _).symm, (List.append_nil _).symm⟩

def IsFlush (t : Tok) : Prop := ∃ lvl c, t = mkInlineTok "text" "" 0 lvl c "" ""

theorem runOps_appended (ops : List POp) (s : IState) (hb : opsBal 0 ops = true) :
    ∃ pre, (∀ t ∈ pre, IsFlush t) ∧ (ops = [] → pre = [])
      ∧ Appended s (runOps ops s) (pre ++ opToks s.level ops) (opRecs (s.tokens.length + pre.length) ops) := by
  cases ops with
  | nil => exact ⟨[], nofun, fun _ => rfl, Appended.refl s⟩
  | cons op rest =>
    refine ⟨flushed s, fun t ht => ⟨_, _, (mem_flushed.1 ht).2⟩, nofun, ?_⟩
    rw [runOps_eq _ _ (List.cons_ne_nil _ _)]
    exact ⟨rfl, rfl, (opLevel_of_bal _ 0 _ hb).trans (Int.sub_zero _), rfl, rfl, rfl, rfl, List.append_assoc _ _ _, rfl⟩

def emphOp (marker : Char) (count : Nat) (o c : Bool) : POp :=
  { type := "text", tag := "", nesting := 0, content := String.singleton marker, markup := "", info := "",
    delim := some ⟨marker.toNat, count, o, c⟩ }

theorem emphPush_eq (marker : Char) (count : Nat) (o c : Bool) : ∀ (k : Nat) (s : IState),
    emphPush marker count o c k s = runOps (List.replicate k (emphOp marker count o c)) s
  | 0, _ => rfl
  | k + 1, s => by rw [emphPush, List.replicate_succ, runOps, ← emphPush_eq marker count o c k]; rfl

def strikeOp (o c : Bool) : POp :=
  { type := "text", tag := "", nesting := 0, content := "~~", markup := "", info := "", delim := some ⟨0x7E, 0, o, c⟩ }

theorem strikePush_eq (o c : Bool) : ∀ (k : Nat) (s : IState), strikePush o c k s = runOps (List.replicate k (strikeOp o c)) s
  | 0, _ => rfl
  | k + 1, s => by rw [strikePush, List.replicate_succ, runOps, ← strikePush_eq o c k]; rfl

def autolinkOps (ext : IExt) (href url : List Char) : List POp :=
  [{ type := "link_open", tag := "a", nesting := 1, content := "", markup := "autolink", info := "auto",
     attrs := some [("href", .s (String.ofList href))] },
   { type := "text", tag := "", nesting := 0, content := String.ofList (ext.normText url), markup := "", info := "" },
   { type := "link_close", tag := "a", nesting := -1, content := "", markup := "autolink", info := "auto" }]

theorem autolinkPush_eq (ext : IExt) (s : IState) (href url : List Char) :
    autolinkPush ext s href url = runOps (autolinkOps ext href url) s := rfl

/-- the flush with which `push` and `pushClose` begin and `tokenize` ends -/
theorem flush_eq (s : IState) : (if s.pending.isEmpty then s else s.pushPending) = { s with tokens := s.tokens ++ flushed s, pending := [] } := by
  unfold flushed IState.pushPending
  split
  · rename_i h; rw [List.append_nil]; cases s; simp_all
  · rfl

theorem length_pushed (A B : List Tok) (x : Tok) : (A ++ B ++ [x]).length - 1 = A.length + B.length := by
  simp only [List.length_append, List.length_singleton]; omega

theorem pushOpen_eq (s : IState) (ty tag : String) (a : List (String × AttrVal)) (md : List (String × String)) :
    s.pushOpen ty tag a md = { s with
      tokens := s.tokens ++ flushed s ++ [.mk ty tag 1 a none (tokLevel s.level 1) none "" "" "" md false false], pending := [],
      level := nextLevel s.level 1, pendingLevel := nextLevel s.level 1,
      scopes := s.delimiters :: s.scopes, openAt := (s.tokens.length + (flushed s).length) :: s.openAt, delimiters := [] } := by
  unfold IState.pushOpen IState.pushA
  simp only [push_eq, modify_last]
  simp only [length_pushed]
  rfl

theorem pushImage_eq (s : IState) (a : List (String × AttrVal)) (ch : Option (List Tok)) (co : String) (md : List (String × String)) :
    s.pushImage a ch co md = { s with
      tokens := s.tokens ++ flushed s ++ [.mk "image" "img" 0 a none (tokLevel s.level 0) ch co "" "" md false false], pending := [],
      level := nextLevel s.level 0, pendingLevel := nextLevel s.level 0 } := by
  unfold IState.pushImage IState.pushA
  simp only [push_eq, modify_last]
  rfl

theorem pushClose_eq (s : IState) (ty tag : String) : s.pushClose ty tag =
    match s.scopes, s.openAt with
    | outer :: rest, i :: is => .ok { s with
        tokens := s.tokens ++ flushed s ++ [mkInlineTok ty tag (-1) (tokLevel s.level (-1)) "" "" ""], pending := [],
        level := nextLevel s.level (-1), pendingLevel := nextLevel s.level (-1),
        metas := (i, s.delimiters) :: s.metas, delimiters := outer, scopes := rest, openAt := is }
    | _, _ => .error .indexError := by
  unfold IState.pushClose
  simp only [flush_eq]
  cases s.scopes with
  | nil => rfl
  | cons outer rest =>
    cases s.openAt with
    | nil => rfl
    | cons i is => simp only [push_eq, flushed, List.isEmpty_nil, if_true, List.append_nil]

end MdIt
