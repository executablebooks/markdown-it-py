import MdIt.Str
import MdIt.Proofs.TokFields
import MdIt.Proofs.InlinePush
/-! Lemmas for C09.inline_literal: literal token streams through `fragments_join` and `text_join`. -/
namespace MdIt

def litContents (ts : List Tok) : List Char := ts.flatMap (fun t => t.content.toList)

/-- the tokens the inline loop produces on escaped text: `text` / `text_special`, nothing else set -/
def IsLit (t : Tok) : Prop :=
  (t.type = "text" ∨ t.type = "text_special") ∧ t.tag = "" ∧ t.nesting = 0 ∧ t.attrs = [] ∧ t.map = none
  ∧ t.level = 0 ∧ t.children = none ∧ t.metaD = [] ∧ t.block = false ∧ t.hidden = false

theorem isLit_mk {ty : String} (h : ty = "text" ∨ ty = "text_special") (c mu i : String) : IsLit (mkInlineTok ty "" 0 0 c mu i) :=
  ⟨h, rfl, rfl, rfl, rfl, rfl, rfl, rfl, rfl, rfl⟩

theorem flushed_lit (s : IState) (h : s.pendingLevel = 0) : ∀ t ∈ flushed s, IsLit t := fun t ht => by
  rw [(mem_flushed.1 ht).2, h]; exact isLit_mk (.inl rfl) _ _ _

theorem litContents_flushed (s : IState) : litContents (flushed s) = s.pending := by
  unfold flushed; split
  · rename_i h; exact (List.isEmpty_iff.1 h).symm
  · simp [litContents, mkInlineTok, Tok.content]

theorem litContents_append (a b : List Tok) : litContents (a ++ b) = litContents a ++ litContents b := List.flatMap_append

theorem isLit_setContent (t : Tok) (c : String) (h : IsLit t) : IsLit (t.setContent c) := by
  cases t
  simpa [IsLit, Tok.setContent, Tok.type, Tok.tag, Tok.nesting, Tok.attrs, Tok.map, Tok.level, Tok.children,
    Tok.metaD, Tok.block, Tok.hidden] using h

theorem setLevel_lit (t : Tok) (h : IsLit t) : t.setLevel 0 = t := by
  cases t
  simp only [IsLit, Tok.level] at h
  simp [Tok.setLevel, h.2.2.2.2.2.1]

theorem fragmentsJoin_lit (ts : List Tok) (h : ∀ t ∈ ts, IsLit t) :
    (∀ t ∈ fragmentsJoin 0 ts, IsLit t) ∧ litContents (fragmentsJoin 0 ts) = litContents ts := by
  generalize hl : (0 : Int) = level
  fun_induction fragmentsJoin level ts with
  | case1 => exact ⟨(by intro t ht; cases ht), rfl⟩
  | case2 level t =>
    subst hl
    have ht := h t (by simp)
    have hn : t.nesting = 0 := ht.2.2.1
    simp only [hn, Int.lt_irrefl, if_false]
    rw [setLevel_lit t ht]
    exact ⟨(by intro x hx; simp at hx; subst hx; exact ht), rfl⟩
  | case3 level t n rest lvl level' hmerge ih =>
    subst hl
    have ht := h t (by simp)
    have hnn := h n (by simp)
    have hn : t.nesting = 0 := ht.2.2.1
    have hl' : level' = 0 := by simp only [level', lvl, hn]; simp
    have := ih (by
      intro x hx
      simp only [List.mem_cons] at hx
      rcases hx with rfl | hx
      · exact isLit_setContent n _ hnn
      · exact h x (by simp [hx])) hl'.symm
    refine ⟨this.1, ?_⟩
    rw [this.2]
    simp [litContents]
  | case4 level t n rest lvl level' hmerge ih =>
    subst hl
    have ht := h t (by simp)
    have hn : t.nesting = 0 := ht.2.2.1
    have hlvl : lvl = 0 := by simp only [lvl, hn]; simp
    have hl' : level' = 0 := by simp only [level', hn, hlvl]; simp
    have := ih (fun x hx => h x (by simp at hx ⊢; exact Or.inr hx)) hl'.symm
    rw [hlvl, setLevel_lit t ht]
    refine ⟨?_, ?_⟩
    · intro x hx
      simp only [List.mem_cons] at hx
      rcases hx with rfl | hx
      · exact ht
      · exact this.1 x hx
    · simp only [litContents, List.flatMap_cons] at this ⊢
      rw [this.2]

theorem joinOne_lit (t : Tok) (h : IsLit t) : IsLit (joinOne t) ∧ (joinOne t).type = "text"
    ∧ (joinOne t).content = t.content := by
  cases t with
  | mk ty tag n a m l c co mu i md b hh =>
    simp only [IsLit, Tok.type, Tok.tag, Tok.nesting, Tok.attrs, Tok.map, Tok.level, Tok.children, Tok.metaD,
      Tok.block, Tok.hidden] at h
    obtain ⟨hty, rfl, rfl, rfl, rfl, rfl, rfl, rfl, rfl, rfl⟩ := h
    rcases hty with rfl | rfl <;>
      simp [joinOne, IsLit, Tok.type, Tok.tag, Tok.nesting, Tok.attrs, Tok.map, Tok.level, Tok.children, Tok.metaD,
        Tok.block, Tok.hidden, Tok.content]

theorem joinToks_lit (ts : List Tok) (h : ∀ t ∈ ts, IsLit t) (a : Tok) (ha : IsLit a) (hat : a.type = "text") :
    ∃ tk, joinToks [a] ts = [tk] ∧ IsLit tk ∧ tk.type = "text" ∧ tk.content.toList = a.content.toList ++ litContents ts := by
  induction ts generalizing a with
  | nil => exact ⟨a, rfl, ha, hat, by simp [litContents]⟩
  | cons t rest ih =>
    have ht := joinOne_lit t (h t (by simp))
    simp only [joinToks]
    have hpush : joinPush [a] (joinOne t) = [a.setContent (a.content ++ (joinOne t).content)] := by
      simp [joinPush, ht.2.1, hat]
    rw [hpush]
    obtain ⟨tk, h1, h2, h3, h4⟩ := ih (fun x hx => h x (by simp [hx])) (a.setContent (a.content ++ (joinOne t).content))
      (isLit_setContent a _ ha) (by cases a; simpa [Tok.setContent, Tok.type] using hat)
    refine ⟨tk, h1, h2, h3, ?_⟩
    rw [h4, Tok.setContent_content, ht.2.2]
    simp [litContents]

theorem joinToks_lit_nil (ts : List Tok) (h : ∀ t ∈ ts, IsLit t) (hne : ts ≠ []) :
    ∃ tk, joinToks [] ts = [tk] ∧ IsLit tk ∧ tk.type = "text" ∧ tk.content.toList = litContents ts := by
  cases ts with
  | nil => exact absurd rfl hne
  | cons t rest =>
    have ht := joinOne_lit t (h t (by simp))
    simp only [joinToks]
    have : joinPush [] (joinOne t) = [joinOne t] := by simp [joinPush]
    rw [this]
    obtain ⟨tk, h1, h2, h3, h4⟩ := joinToks_lit rest (fun x hx => h x (by simp [hx])) (joinOne t) ht.1 ht.2.1
    exact ⟨tk, h1, h2, h3, by rw [h4, ht.2.2]; simp [litContents]⟩

end MdIt
