import MdIt.Token
import MdIt.Instance
/-!
# Python dictionaries as association lists: `dictSet`, `dictGet`, `dictOfPairs`

`dictSet` tests for the key and then either overwrites or appends.  `dictSet_eq` is the same without the test: every entry under the
key is overwritten in place, and the pair is appended when there was none.  The other facts are read from that form.
-/
namespace MdIt

universe u
variable {β : Type u}

theorem dictSet_eq (d : List (String × β)) (k : String) (v : β) :
    dictSet d k v = d.map (fun p => if p.1 == k then (k, v) else p) ++ if d.any (·.1 == k) then [] else [(k, v)] := by
  unfold dictSet
  by_cases h : d.any (·.1 == k) = true
  · rw [if_pos h, if_pos h, List.append_nil]
  · rw [if_neg h, if_neg h]
    refine congrArg (· ++ _) (((List.map_congr_left fun p hp => ?_).trans (List.map_id d)).symm)
    exact if_neg fun hpk => h (List.any_eq_true.2 ⟨p, hp, hpk⟩)

theorem mem_dictSet {d : List (String × β)} {k : String} {v : β} {kv : String × β} (h : kv ∈ dictSet d k v) :
    kv = (k, v) ∨ (kv ∈ d ∧ (kv.1 == k) = false) := by
  rw [dictSet_eq] at h
  rcases List.mem_append.1 h with h | h
  · obtain ⟨p, hp, rfl⟩ := List.mem_map.1 h
    by_cases hk : (p.1 == k) = true
    · exact .inl (if_pos hk)
    · exact .inr (by rw [if_neg hk]; exact ⟨hp, Bool.eq_false_iff.2 hk⟩)
  · exact .inl (List.mem_singleton.1 (List.mem_ite_nil_left.1 h).2)

theorem dictSet_of_not_mem {d : List (String × β)} {k : String} (h : k ∉ d.map (·.1)) (v : β) : dictSet d k v = d ++ [(k, v)] :=
  if_neg fun hany => by
    obtain ⟨p, hp, hpk⟩ := List.any_eq_true.1 hany
    exact h (List.mem_map.2 ⟨p, hp, eq_of_beq hpk⟩)

theorem find?_dictSet (d : List (String × β)) (k k' : String) (v : β) :
    (dictSet d k v).find? (·.1 == k') = if k' = k then some (k, v) else d.find? (·.1 == k') := by
  have hmap : ∀ d : List (String × β), (d.map (fun p => if p.1 == k then (k, v) else p)).find? (·.1 == k')
      = if k' = k then (if d.any (·.1 == k) then some (k, v) else none) else d.find? (·.1 == k') := by
    intro d
    induction d with
    | nil => split <;> rfl
    | cons q qs ih =>
      rw [List.map_cons, List.find?_cons, List.any_cons, List.find?_cons, ih]
      by_cases hq : (q.1 == k) = true
      · rw [if_pos hq, hq, Bool.true_or, if_pos rfl]
        by_cases hk : k' = k
        · rw [if_pos hk, if_pos hk, show ((k, v).1 == k') = true from beq_iff_eq.2 hk.symm]
        · rw [if_neg hk, if_neg hk, show ((k, v).1 == k') = false from beq_false_of_ne (Ne.symm hk),
            show (q.1 == k') = false from beq_false_of_ne (eq_of_beq hq ▸ Ne.symm hk)]
      · rw [if_neg hq, Bool.eq_false_iff.2 hq, Bool.false_or]
        by_cases hk : k' = k
        · rw [if_pos hk, if_pos hk, hk, Bool.eq_false_iff.2 hq]
        · rw [if_neg hk, if_neg hk]
  rw [dictSet_eq, List.find?_append, hmap]
  by_cases hk : k' = k
  · rw [if_pos hk, if_pos hk]
    by_cases hany : d.any (·.1 == k) = true
    · rw [if_pos hany]; rfl
    · rw [if_neg hany, if_neg hany, List.find?_cons, show ((k, v).1 == k') = true from beq_iff_eq.2 hk.symm]; rfl
  · rw [if_neg hk, if_neg hk]
    have : (if d.any (·.1 == k) then [] else [(k, v)]).find? (·.1 == k') = none := by
      split
      · rfl
      · rw [List.find?_cons, show ((k, v).1 == k') = false from beq_false_of_ne (Ne.symm hk)]; rfl
    rw [this, Option.or_none]

theorem dictGet_dictSet_eq (d : List (String × β)) (k k' : String) (v : β) :
    dictGet (dictSet d k v) k' = if k' = k then some v else dictGet d k' := by
  rw [dictGet, find?_dictSet]
  split <;> rfl

theorem dictSet_idem (d : List (String × β)) (k : String) (v : β) : dictSet (dictSet d k v) k v = dictSet d k v := by
  -- the first assignment leaves the key present, so the second only maps; and it maps each entry of the first result to itself
  have hany : (dictSet d k v).any (·.1 == k) = true := by
    have h := find?_dictSet d k k v
    rw [if_pos rfl] at h
    exact List.any_eq_true.2 ⟨_, List.mem_of_find?_eq_some h, beq_self_eq_true k⟩
  rw [dictSet_eq (dictSet d k v), if_pos hany, List.append_nil]
  refine (List.map_congr_left fun p hp => ?_).trans (List.map_id _)
  rcases mem_dictSet hp with rfl | ⟨_, hpk⟩
  · exact if_pos (beq_self_eq_true k)
  · exact if_neg (Bool.eq_false_iff.1 hpk)

theorem dictOfPairs_cons (acc : List (String × β)) (kv : String × β) (rest : List (String × β)) :
    dictOfPairs acc (kv :: rest) = dictOfPairs (dictSet acc kv.1 kv.2) rest := by
  rw [dictOfPairs, dictSet]
  split <;> rfl

end MdIt
