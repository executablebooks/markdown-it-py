import MdIt.Proofs.LinkEngine
/-!
# `link` and `image` as one rule frame, and the one walk through it

Both rules are `bracketRule head find emit`: test the head, run the silent walks that settle where the construct ends and what it
points at (`find`: `parseLinkLabel`, the inline form, `linkRef`), and on a match in normal mode `emit`.  `find` asks its chain only for
`skipToken`, `emit` only for `runChain` on the label.  So if two chains skip alike on the states satisfying `P` and keep `P`
(`SkipInv`), `find` over them is the `Same`; likewise `emit` (`RunInv`) and the whole rule (`bracket_same`).  With one chain on both
sides `P` is an invariant of the rule; with two, the rule does not tell them apart.
-/
namespace MdIt

/-- what `link` and `image` settle on before they emit (`pos`: where the construct ends) -/
structure Found where
  labelEnd : Nat
  pos : Nat
  href : List Char
  title : List Char
  label : List Char

/-- the frame `link` and `image` share.  `find` returns the state after the silent walks and what they found; `emit` gets the entry
    state too (the label starts one or two characters after its `pos`). -/
def bracketRule (head : IState → Except PyErr Bool) (find : IState → Except PyErr (IState × Option Found))
    (emit : IState → IState → Found → Except PyErr IState) : IRule := fun s silent =>
  match head s with
  | .error e => .error e
  | .ok false => .ok (false, s)
  | .ok true =>
    match find s with
    | .error e => .error e
    | .ok (s2, none) => .ok (false, s2)
    | .ok (s2, some f) =>
      if silent then .ok (true, { s2 with pos := f.pos, posMax := s.posMax }) else
      match emit s s2 f with
      | .error e => .error e
      | .ok s3 => .ok (true, { s3 with pos := f.pos, posMax := s.posMax })

def linkHead (s : IState) : Except PyErr Bool :=
  match s.src[s.pos]? with
  | none => .error .indexError
  | some c0 => .ok (c0 == '[')

def linkFind (ext : IExt) (lx : LExt) (mn : Int) (inner : List IRule) (s : IState) : Except PyErr (IState × Option Found) :=
  match parseLinkLabel inner mn s s.pos true with
  | .error e => .error e
  | .ok (labelEndI, s1) =>
    if labelEndI < 0 then .ok (s1, none) else
    match linkInline ext s1 labelEndI.toNat s.posMax with
    | none => .ok (s1, none)
    | some (pos1, href1, title1, false) => .ok (s1, some ⟨labelEndI.toNat, pos1, href1, title1, []⟩)
    | some (pos1, _, _, true) =>
      match linkRef lx mn inner s1 (s.pos + 1) labelEndI.toNat s.posMax pos1 with
      | .error e => .error e
      | .ok (s2, none) => .ok ({ s2 with pos := s.pos }, none)
      | .ok (s2, some (pos, href, title, label)) => .ok (s2, some ⟨labelEndI.toNat, pos, href, title, label⟩)

def imageHead (s : IState) : Except PyErr Bool :=
  match s.src[s.pos]? with
  | none => .error .indexError
  | some c0 =>
    if c0 != '!' then .ok false else
    match imageSecond s with
    | .error e => .error e
    | .ok b => .ok (!b)

def imageFind (ext : IExt) (lx : LExt) (mn : Int) (inner : List IRule) (s : IState) : Except PyErr (IState × Option Found) :=
  match parseLinkLabel inner mn s (s.pos + 1) false with
  | .error e => .error e
  | .ok (labelEndI, s1) =>
    if labelEndI < 0 then .ok (s1, none) else
    match imageFound ext lx mn inner s1 (s.pos + 2) labelEndI.toNat s.posMax with
    | .error e => .error e
    | .ok (s2, none) => .ok ({ s2 with pos := s.pos }, none)
    | .ok (s2, some (pos, href, title, label)) => .ok (s2, some ⟨labelEndI.toNat, pos, href, title, label⟩)

theorem ruleLink_eq (ext : IExt) (lx : LExt) (mn : Int) (inner : List IRule) :
    ruleLink ext lx mn inner = bracketRule linkHead (linkFind ext lx mn inner)
      (fun s s2 f => linkEmit lx mn inner s2 (s.pos + 1) f.labelEnd f.href f.title f.label) := by
  funext s silent
  unfold ruleLink bracketRule linkHead linkFind
  cases s.src[s.pos]? with
  | none => rfl
  | some c0 =>
    cases hc : c0 == '[' with
    | false => simp [bne, hc]
    | true =>
      simp only [bne, hc, Bool.not_true, Bool.false_eq_true, if_false]
      cases parseLinkLabel inner mn s s.pos true with
      | error e => rfl
      | ok v =>
        obtain ⟨r, s1⟩ := v
        dsimp only
        by_cases hneg : r < 0
        · rw [if_pos hneg, if_pos hneg]
        · rw [if_neg hneg, if_neg hneg]
          cases linkInline ext s1 r.toNat s.posMax with
          | none => rfl
          | some q =>
            obtain ⟨pos1, href1, title1, pr⟩ := q
            cases pr with
            | false => rfl
            | true =>
              dsimp only [Bool.not_true, Bool.false_eq_true, if_false]
              cases linkRef lx mn inner s1 (s.pos + 1) r.toNat s.posMax pos1 with
              | error e => rfl
              | ok w =>
                obtain ⟨s2, o⟩ := w
                cases o with
                | none => rfl
                | some q2 => rfl

theorem ruleImage_eq (ext : IExt) (lx : LExt) (mn : Int) (inner : List IRule) (parse : List Char → Except PyErr (List Tok)) :
    ruleImage ext lx mn inner parse = bracketRule imageHead (imageFind ext lx mn inner)
      (fun s s2 f => imageEmit lx parse s2 (s.pos + 2) f.labelEnd f.href f.title f.label) := by
  funext s silent
  unfold ruleImage bracketRule imageHead imageFind
  cases s.src[s.pos]? with
  | none => rfl
  | some c0 =>
    dsimp only
    by_cases hc : (c0 != '!') = true
    · rw [if_pos hc, if_pos hc]
    · rw [if_neg hc, if_neg hc]
      cases imageSecond s with
      | error e => rfl
      | ok b =>
        cases b with
        | true => rfl
        | false =>
          dsimp only [Bool.not_false]
          cases parseLinkLabel inner mn s (s.pos + 1) false with
          | error e => rfl
          | ok v =>
            obtain ⟨r, s1⟩ := v
            dsimp only
            by_cases hneg : r < 0
            · rw [if_pos hneg, if_pos hneg]; rfl
            · rw [if_neg hneg, if_neg hneg]
              cases imageFound ext lx mn inner s1 (s.pos + 2) r.toNat s.posMax with
              | error e => rfl
              | ok w =>
                obtain ⟨s2, o⟩ := w
                cases o with
                | none => rfl
                | some q2 => rfl

/-- `link` looks for a title only behind a destination; otherwise its scan of `( dest "title" )` is the one of `image` -/
theorem linkDestTitle_eq (ext : IExt) (s : IState) (maximum p1 : Nat) : linkDestTitle ext s maximum p1 =
    if (parseLinkDestination ext s.src p1 s.posMax).isSome then imageDestTitle ext s maximum p1 else (p1, [], []) := by
  unfold linkDestTitle imageDestTitle imageDest
  cases parseLinkDestination ext s.src p1 s.posMax with
  | none => rfl
  | some q =>
    obtain ⟨dpos, dstr⟩ := q
    dsimp only [Option.isSome]
    cases validateLink (ext.normLink dstr) <;> rfl

/-- what `find` needs of two chains: on a state in `P` before `posMax`, `skipToken` over `l` and over `l'` end alike and in `P`; and
`P` does not read `pos` (the walks move it freely) -/
structure SkipInv (l l' : List IRule) (mn : Int) (P : IState → Prop) : Prop where
  pos : ∀ s p, P s → P { s with pos := p }
  skip : ∀ s, P s → s.pos < s.posMax → Same id P (skipToken l mn s) (skipToken l' mn s)

/-- what `emit` needs of two chains for the run on a label that ends at `e`: before `e`, `runChain` over `l` and over `l'` end alike and
in `P`, and the loop's own two steps (a character left pending, the flush at the end) keep `P` -/
structure RunInv (l l' : List IRule) (e : Nat) (P : IState → Prop) : Prop where
  char : ∀ s c, P s → P { s with pending := s.pending ++ [c], pos := s.pos + 1 }
  flush : ∀ s, P s → P s.pushPending
  chain : ∀ s, P s → s.pos < e → Same (·.2) P (runChain l s) (runChain l' s)

/-- `hmv`: `skipToken` sets `pos` and the memo, and calls the rules one level down -/
theorem SkipInv.of_rules {rs : List IRule} {mn : Int} {P : IState → Prop}
    (hmv : ∀ s p lv c, P s → P { s with pos := p, level := lv, cache := c })
    (hrs : ∀ r ∈ rs, ∀ s m s', P s → r s true = .ok (m, s') → P s') : SkipInv rs rs mn P where
  pos s p h := hmv s p s.level s.cache h
  skip s h0 _ := ⟨rfl, fun s' h => by
    obtain ⟨s1, p, c, h1, rfl⟩ := skipToken_shape h
    refine hmv s1 p s1.level c ?_
    rcases h1 with rfl | ⟨m, _, hr⟩
    · exact h0
    · rw [runSilent_eq] at hr
      refine runChain_inv _ (forall_mem_down fun r hr x m x' hx hc => ?_) s m s1 h0 hr
      unfold silentDown at hc
      cases hq : r { x with level := x.level + 1 } true with
      | error e => rw [hq] at hc; cases hc
      | ok v =>
        rw [hq] at hc; cases hc
        exact hmv v.2 v.2.pos (v.2.level - 1) v.2.cache (hrs r hr _ v.1 v.2 (hmv x x.pos (x.level + 1) x.cache hx) hq)⟩

theorem RunInv.of_rules {rs : List IRule} {e : Nat} {P : IState → Prop}
    (hchar : ∀ s c, P s → P { s with pending := s.pending ++ [c], pos := s.pos + 1 }) (hflush : ∀ s, P s → P s.pushPending)
    (hrs : ∀ r ∈ rs, ∀ s m s', P s → r s false = .ok (m, s') → P s') : RunInv rs rs e P :=
  ⟨hchar, hflush, fun s h0 _ => ⟨rfl, fun a h => runChain_inv rs hrs s a.1 a.2 h0 h⟩⟩

section silent
variable {l l' : List IRule} {mn : Int} {P : IState → Prop}

theorem labelLoop_same (hS : SkipInv l l' mn P) (dn : Bool) (fuel level : Nat) (s : IState) (h0 : P s) :
    Same (·.2) P (labelLoop l mn dn fuel level s) (labelLoop l' mn dn fuel level s) :=
  ⟨labelLoop_congr (fun s hp hlt => hS.skip s hp hlt) fuel level s h0,
    fun _ h => (labelLoop_inv (fun s s' hp hlt hs _ => (hS.skip s hp hlt).2 s' hs) fuel level s h0 h).1⟩

theorem parseLinkLabel_same (hS : SkipInv l l' mn P) (s : IState) (start : Nat) (dn : Bool) (h0 : P s) :
    Same (·.2) P (parseLinkLabel l mn s start dn) (parseLinkLabel l' mn s start dn) := by
  unfold parseLinkLabel
  rcases (labelLoop_same hS dn (s.posMax - start + 1) 1 { s with pos := start + 1 } (hS.pos s _ h0)).elim with
    ⟨e, h1, h2⟩ | ⟨⟨r, s'⟩, h1, h2, hp⟩ <;> rw [h1, h2]
  · exact .error
  · exact .ok (hS.pos s' _ hp)

theorem linkRef_same (hS : SkipInv l l' mn P) (lx : LExt) (s : IState) (labelStart labelEnd maximum pos1 : Nat) (h0 : P s) :
    Same (·.1) P (linkRef lx mn l s labelStart labelEnd maximum pos1) (linkRef lx mn l' s labelStart labelEnd maximum pos1) := by
  have h2 : Same (·.2.2) P (linkSecondLabel mn l s labelEnd maximum pos1) (linkSecondLabel mn l' s labelEnd maximum pos1) := by
    unfold linkSecondLabel
    split
    · rcases (parseLinkLabel_same hS s pos1 false h0).elim with ⟨e, h1, h2⟩ | ⟨⟨e2, s2⟩, h1, h2, hp⟩ <;> rw [h1, h2]
      · exact .error
      · dsimp only; split <;> exact .ok hp
    · exact .ok h0
  unfold linkRef
  split
  · exact .ok h0
  · rcases h2.elim with ⟨e, h1, h2⟩ | ⟨⟨pos2, label, s2⟩, h1, h2, hp⟩ <;> rw [h1, h2]
    · exact .error
    · dsimp only; split <;> exact .ok hp

theorem imageFound_same (hS : SkipInv l l' mn P) (ext : IExt) (lx : LExt) (s : IState) (labelStart labelEnd maximum : Nat) (h0 : P s) :
    Same (·.1) P (imageFound ext lx mn l s labelStart labelEnd maximum) (imageFound ext lx mn l' s labelStart labelEnd maximum) := by
  unfold imageFound
  split
  · split <;> exact .ok h0
  · exact linkRef_same hS lx s _ _ _ _ h0

end silent

section find
variable {l l' : List IRule} {mn : Int} {P : IState → Prop}

theorem linkFind_same (hS : SkipInv l l' mn P) (ext : IExt) (lx : LExt) (s : IState) (h0 : P s) :
    Same (·.1) P (linkFind ext lx mn l s) (linkFind ext lx mn l' s) := by
  unfold linkFind
  rcases (parseLinkLabel_same hS s s.pos true h0).elim with ⟨e, h1, h2⟩ | ⟨⟨r, s1⟩, h1, h2, hp⟩ <;> rw [h1, h2]
  · exact .error
  · dsimp only
    by_cases hneg : r < 0
    · rw [if_pos hneg, if_pos hneg]; exact .ok hp
    · rw [if_neg hneg, if_neg hneg]
      cases linkInline ext s1 r.toNat s.posMax with
      | none => exact .ok hp
      | some q =>
        obtain ⟨pos1, href1, title1, pr⟩ := q
        cases pr with
        | false => exact .ok hp
        | true =>
          dsimp only
          rcases (linkRef_same hS lx s1 (s.pos + 1) r.toNat s.posMax pos1 hp).elim with ⟨e, h1, h2⟩ | ⟨⟨s2, o⟩, h1, h2, hp2⟩ <;> rw [h1, h2]
          · exact .error
          · cases o with
            | none => exact .ok (hS.pos s2 _ hp2)
            | some q2 => exact .ok hp2

theorem imageFind_same (hS : SkipInv l l' mn P) (ext : IExt) (lx : LExt) (s : IState) (h0 : P s) :
    Same (·.1) P (imageFind ext lx mn l s) (imageFind ext lx mn l' s) := by
  unfold imageFind
  rcases (parseLinkLabel_same hS s (s.pos + 1) false h0).elim with ⟨e, h1, h2⟩ | ⟨⟨r, s1⟩, h1, h2, hp⟩ <;> rw [h1, h2]
  · exact .error
  · dsimp only
    by_cases hneg : r < 0
    · rw [if_pos hneg, if_pos hneg]; exact .ok hp
    · rw [if_neg hneg, if_neg hneg]
      rcases (imageFound_same hS ext lx s1 (s.pos + 2) r.toNat s.posMax hp).elim with ⟨e, h1, h2⟩ | ⟨⟨s2, o⟩, h1, h2, hp2⟩ <;> rw [h1, h2]
      · exact .error
      · cases o with
        | none => exact .ok (hS.pos s2 _ hp2)
        | some q2 => exact .ok hp2

end find

section emit
variable {l l' : List IRule} {P : IState → Prop}

theorem tokenizeLoop_same {e : Nat} (hR : RunInv l l' e P) (mn : Int) (fuel : Nat) (ok : Bool) (s : IState) (h0 : P s) :
    Same id P (tokenizeLoop l mn e fuel ok s) (tokenizeLoop l' mn e fuel ok s) :=
  ⟨tokenizeLoop_congr (fun s hp hlt => ⟨(hR.chain s hp hlt).1, fun m s' h => (hR.chain s hp hlt).2 (m, s') h⟩) hR.char fuel ok s h0,
    fun s' h => tokenizeLoop_inv l mn e P hR.char (fun s m s' hp hlt h => (hR.chain s hp hlt).2 (m, s') h) fuel ok s s' h0 h⟩

theorem innerTokenize_same {s : IState} (hR : RunInv l l' s.posMax P) (mn : Int) (h0 : P s) :
    Same id P (innerTokenize l mn s) (innerTokenize l' mn s) := by
  unfold innerTokenize
  rcases (tokenizeLoop_same hR mn (s.posMax - s.pos + 1) false s h0).elim with ⟨e, h1, h2⟩ | ⟨s', h1, h2, hp⟩ <;> rw [h1, h2]
  · exact .error
  · refine .ok ?_
    show P (if _ then _ else _)
    split
    · exact hp
    · exact hR.flush s' hp

/-- `linkAttrs`, `labelMeta`: names for two let-bound terms, `attrs` of `linkEmit` and `metaD` of `linkEmit` / `imageEmit` -/
def linkAttrs (href title : List Char) : List (String × AttrVal) :=
  [("href", .s (String.ofList href))] ++ (if title.isEmpty then [] else [("title", .s (String.ofList title))])

def labelMeta (lx : LExt) (label : List Char) : List (String × String) :=
  if !label.isEmpty && lx.storeLabels then [("label", String.ofList label)] else []

/-- the state in which `linkEmit` starts the run on the label -/
def linkOpened (lx : LExt) (s : IState) (labelStart labelEnd : Nat) (href title label : List Char) : IState :=
  let s1 := ({ s with pos := labelStart, posMax := labelEnd } : IState).pushOpen "link_open" "a" (linkAttrs href title) (labelMeta lx label)
  { s1 with linkLevel := s1.linkLevel + 1 }

theorem linkOpened_posMax (lx : LExt) (s : IState) (ls le : Nat) (href title label : List Char) :
    (linkOpened lx s ls le href title label).posMax = le := by
  unfold linkOpened; rw [pushOpen_eq]

theorem linkEmit_eq (lx : LExt) (mn : Int) (l : List IRule) (s : IState) (ls le : Nat) (href title label : List Char) :
    linkEmit lx mn l s ls le href title label = match innerTokenize l mn (linkOpened lx s ls le href title label) with
      | .error e => .error e
      | .ok s2 => ({ s2 with linkLevel := s2.linkLevel - 1 } : IState).pushClose "link_close" "a" := rfl

theorem linkEmit_same {P' : IState → Prop} (lx : LExt) (mn : Int) (s : IState) (ls le : Nat) (href title label : List Char)
    (hR : RunInv l l' le P) (hopen : P (linkOpened lx s ls le href title label))
    (hclose : ∀ x s3, P x → ({ x with linkLevel := x.linkLevel - 1 } : IState).pushClose "link_close" "a" = .ok s3 → P' s3) :
    Same id P' (linkEmit lx mn l s ls le href title label) (linkEmit lx mn l' s ls le href title label) := by
  rw [linkEmit_eq, linkEmit_eq]
  rcases (innerTokenize_same (s := linkOpened lx s ls le href title label) (by rw [linkOpened_posMax]; exact hR) mn hopen).elim with
    ⟨e, h1, h2⟩ | ⟨s2, h1, h2, hp⟩ <;> rw [h1, h2]
  · exact .error
  · exact ⟨rfl, fun s3 h => hclose s2 s3 hp h⟩

end emit

/-- `Ps` is what the silent walks keep, `Pl` what a call in normal mode leaves -/
theorem bracket_same {Ps Pl : IState → Prop} {head : IState → Except PyErr Bool} {find find' : IState → Except PyErr (IState × Option Found)}
    {emit emit' : IState → IState → Found → Except PyErr IState} (s : IState) (silent : Bool) (hsl : ∀ x, Ps x → Pl x) (h0 : Ps s)
    (hfind : Same (·.1) Ps (find s) (find' s))
    (hsil : ∀ s2 f, find s = .ok (s2, some f) → Ps s2 → Ps { s2 with pos := f.pos, posMax := s.posMax })
    (hemit : ∀ s2 f, find s = .ok (s2, some f) → Ps s2 →
      Same id (fun s3 => Pl { s3 with pos := f.pos, posMax := s.posMax }) (emit s s2 f) (emit' s s2 f)) :
    Same (·.2) (fun x => Pl x ∧ (silent = true → Ps x)) (bracketRule head find emit s silent) (bracketRule head find' emit' s silent) := by
  unfold bracketRule
  cases head s with
  | error e => exact .error
  | ok b =>
    cases b with
    | false => exact .ok ⟨hsl s h0, fun _ => h0⟩
    | true =>
      dsimp only
      rcases hfind.elim with ⟨e, h1, h2⟩ | ⟨⟨s2, o⟩, h1, h2, hp⟩ <;> rw [h1, h2]
      · exact .error
      · cases o with
        | none => exact .ok ⟨hsl s2 hp, fun _ => hp⟩
        | some f =>
          cases silent with
          | true => exact .ok ⟨hsl _ (hsil s2 f h1 hp), fun _ => hsil s2 f h1 hp⟩
          | false =>
            dsimp only [Bool.false_eq_true, if_false]
            rcases (hemit s2 f h1 hp).elim with ⟨e, h3, h4⟩ | ⟨s3, h3, h4, hp3⟩ <;> rw [h3, h4]
            · exact .error
            · exact .ok ⟨hp3, fun h => by cases h⟩

theorem bracket_keeps {Ps Pl : IState → Prop} {head : IState → Except PyErr Bool} {find : IState → Except PyErr (IState × Option Found)}
    {emit : IState → IState → Found → Except PyErr IState} {s : IState} {silent m : Bool} {s' : IState}
    (h : bracketRule head find emit s silent = .ok (m, s')) (hsl : ∀ x, Ps x → Pl x) (h0 : Ps s)
    (hfind : ∀ a, find s = .ok a → Ps a.1)
    (hsil : ∀ s2 f, find s = .ok (s2, some f) → Ps s2 → Ps { s2 with pos := f.pos, posMax := s.posMax })
    (hemit : ∀ s2 f, find s = .ok (s2, some f) → Ps s2 → ∀ s3, emit s s2 f = .ok s3 → Pl { s3 with pos := f.pos, posMax := s.posMax }) :
    Pl s' ∧ (silent = true → Ps s') :=
  (bracket_same s silent hsl h0 ⟨rfl, hfind⟩ hsil (fun s2 f hf h2 => ⟨rfl, hemit s2 f hf h2⟩)).2 (m, s') h

end MdIt
