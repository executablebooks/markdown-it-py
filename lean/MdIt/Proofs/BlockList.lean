import MdIt.BlockList
import MdIt.Proofs.BlockRules
/-!
# The list rule in steps

`listItems` runs an item and then decides whether the list goes on.  `listNext` is that decision as a function of the state the
item left, and `listItems_succ` the loop in terms of it, so that an invariant of the loop needs one fact about `listItem` and one
about `listNext`.  In the same way an item and the list around the loop are cut into named states in closed form (`listItem_eq`,
`listRun_eq`) and the rule into its tests followed by `listTail` (`ruleList_eq`); the blank scan of an item is the quote's loop
(`lLoop_eq_qLoop`).
-/
namespace MdIt

/-- after an item that left the state `s6`: does the list go on?  `(s, none)`: it ends; `(s, some mlen)`: the next item starts on
    `s6.line` with a marker of `mlen` characters.  `s` is `s6`, or the state the terminator chain left. -/
def listNext (codeOn ordered : Bool) (markerChar : Char) (terms : List BRule) (endLine : Nat) (s6 : BState) :
    Except PyErr (BState × Option Nat) :=
  if s6.line ≥ endLine then .ok (s6, none) else
  match getL s6 s6.line with
  | .error e => .error e
  | .ok ln =>
    if ln.sCount < s6.blkIndent then .ok (s6, none) else
    if isCodeLine codeOn s6 ln then .ok (s6, none) else
    match runTerminators terms s6 s6.line endLine with
    | .error e => .error e
    | .ok (true, s7) => .ok (s7, none)
    | .ok (false, s7) =>
      match (if ordered then skipOrdered ln else skipBullet ln) with
      | none => .ok (s7, none)
      | some mlen => if some markerChar != ln.body[mlen - 1]? then .ok (s7, none) else .ok (s7, some mlen)

theorem listItems_succ (codeOn ordered : Bool) (markerChar : Char) (terms inner : List BRule) (mn : Int) (endLine fuel : Nat) (st : ListSt) :
    listItems codeOn ordered markerChar terms inner mn endLine (fuel + 1) st =
      if ¬ (st.startLine < endLine) then .ok st else
      match listItem ordered markerChar inner mn endLine st.s st.startLine st.markerLen with
      | .error e => .error e
      | .ok (s6, nestedTight, prevEmptyEnd) =>
        match listNext codeOn ordered markerChar terms endLine s6 with
        | .error e => .error e
        | .ok (s7, none) =>
          .ok { s := s7, startLine := s6.line, markerLen := st.markerLen,
                tight := if (!nestedTight) || st.prevEmptyEnd then false else st.tight, prevEmptyEnd := prevEmptyEnd }
        | .ok (s7, some mlen) =>
          listItems codeOn ordered markerChar terms inner mn endLine fuel
            { s := s7, startLine := s6.line, markerLen := mlen,
              tight := if (!nestedTight) || st.prevEmptyEnd then false else st.tight, prevEmptyEnd := prevEmptyEnd } := by
  rw [listItems]
  refine ite_congr rfl (fun _ => rfl) fun _ => ?_
  cases listItem ordered markerChar inner mn endLine st.s st.startLine st.markerLen with
  | error e => rfl
  | ok r =>
    obtain ⟨s6, nestedTight, prevEmptyEnd⟩ := r
    unfold listNext
    by_cases h1 : s6.line ≥ endLine
    · simp only [if_pos h1]
    · simp only [if_neg h1]
      cases getL s6 s6.line with
      | error e => rfl
      | ok ln =>
        by_cases h2 : ln.sCount < s6.blkIndent
        · simp only [if_pos h2]
        · by_cases h3 : isCodeLine codeOn s6 ln = true
          · simp only [if_neg h2, if_pos h3]
          · simp only [if_neg h2, if_neg h3]
            cases runTerminators terms s6 s6.line endLine with
            | error e => rfl
            | ok r =>
              obtain ⟨b, s7⟩ := r
              cases b with
              | true => rfl
              | false =>
                cases (if ordered = true then skipOrdered ln else skipBullet ln) with
                | none => rfl
                | some mlen =>
                  by_cases h4 : (some markerChar != ln.body[mlen - 1]?) = true
                  · simp only [if_pos h4]
                  · simp only [if_neg h4]

theorem listNext_inert (codeOn ordered : Bool) (markerChar : Char) (terms : List BRule) (hin : ∀ t ∈ terms, SilentInert t) (endLine : Nat)
    (s6 : BState) (hl : s6.line < s6.lines.length) : ∃ o, listNext codeOn ordered markerChar terms endLine s6 = .ok (s6, o) := by
  obtain ⟨ln, hg, _⟩ := getL_ok s6 s6.line hl
  obtain ⟨b, hb⟩ := runTerminators_inert terms hin s6 s6.line endLine hl
  fun_cases listNext codeOn ordered markerChar terms endLine s6
  case case1 | case3 | case4 => exact ⟨_, rfl⟩
  case case2 h => rw [hg] at h; cases h
  case case5 h => rw [hb] at h; cases h
  case case6 h | case7 h _ | case8 h _ _ _ | case9 h _ _ _ => rw [hb] at h; cases h; exact ⟨_, rfl⟩

/-- the state just after `list_item_open`; `l` is the item's first line -/
def itemOpen (ordered : Bool) (mc : Char) (s : BState) (l : BLine) (startLine markerLen : Nat) : BState :=
  s.pushFull "list_item_open" "li" 1 (some (startLine, 0)) none "" (String.singleton mc)
    (if ordered then String.ofList (l.body.take (markerLen - 1)) else "")

/-- the blank scan behind the marker -/
def itemScan (l : BLine) (markerLen : Nat) : Int × Nat := lLoop l.bs (l.sCount + (markerLen : Int)) (l.body.drop markerLen) 0

/-- the state the nested part of an item starts from -/
def itemEnter (ordered : Bool) (mc : Char) (s : BState) (l : BLine) (startLine markerLen : Nat) : BState :=
  listEnter (itemOpen ordered mc s l startLine markerLen) l startLine markerLen (itemScan l markerLen)
    (listIndentOf l markerLen (itemScan l markerLen))

theorem itemEnter_tokens (ordered : Bool) (mc : Char) (s : BState) (l : BLine) (startLine markerLen : Nat) :
    (itemEnter ordered mc s l startLine markerLen).tokens = s.tokens ++ [pushedTok s "list_item_open" "li" 1 (some (startLine, 0)) none ""
      (String.singleton mc) (if ordered then String.ofList (l.body.take (markerLen - 1)) else "")] := rfl

theorem itemEnter_level (ordered : Bool) (mc : Char) (s : BState) (l : BLine) (startLine markerLen : Nat) :
    (itemEnter ordered mc s l startLine markerLen).level = s.level + 1 := by
  show (itemOpen ordered mc s l startLine markerLen).level = _
  exact pushFull_level_open ..

theorem itemEnter_lines (ordered : Bool) (mc : Char) (s : BState) (l : BLine) (startLine markerLen : Nat) :
    (itemEnter ordered mc s l startLine markerLen).lines
      = s.lines.set startLine (l.retab (l.tShift + markerLen + (itemScan l markerLen).2) (itemScan l markerLen).1) := rfl

theorem lLoop_eq_qLoop (bs : Nat) : ∀ (text : List Char) (offset : Int) (n : Nat), lLoop bs offset text n = qLoop bs 0 offset text n
  | [], _, _ => rfl
  | _ :: rest, _, _ => by simp only [lLoop, qLoop, Int.add_zero, lLoop_eq_qLoop bs rest]

/-- the state `listClose` returns, as a function of the line entry it reads -/
def closeState (markerChar : Char) (s1 : BState) (l : BLine) (ntokItem startLine : Nat) (s3 : BState) (lcur : BLine) : BState :=
  let s4 : BState := { (s3.setLine startLine (lcur.retab l.tShift l.sCount)) with blkIndent := s3.listIndent, listIndent := s1.listIndent, tight := s1.tight }
  let s5 := s4.pushFull "list_item_close" "li" (-1) none none "" (String.singleton markerChar) ""
  { s5 with tokens := s5.tokens.modify ntokItem (fun t => t.setMap (some (startLine, s5.line))) }

theorem listClose_eq (markerChar : Char) (s1 : BState) (l : BLine) (ntokItem startLine : Nat) (s3 : BState) :
    listClose markerChar s1 l ntokItem startLine s3 =
      (match (if s3.line - startLine > 1 then s3.isEmpty ((s3.line : Int) - 1) else .ok false) with
       | .error e => .error e
       | .ok pe =>
         match getL s3 startLine with
         | .error e => .error e
         | .ok lcur => .ok (closeState markerChar s1 l ntokItem startLine s3 lcur, s3.tight, pe)) := rfl

theorem listItem_eq (ordered : Bool) (mc : Char) (inner : List BRule) (mn : Int) (endLine : Nat) (s : BState) (startLine markerLen : Nat)
    {l : BLine} (hg : getL s startLine = .ok l) :
    listItem ordered mc inner mn endLine s startLine markerLen =
      (match listNested inner mn endLine (itemEnter ordered mc s l startLine markerLen) startLine
          (decide ((l.body.drop markerLen).length ≤ (itemScan l markerLen).2)) with
       | .error e => .error e
       | .ok s3 => listClose mc (itemOpen ordered mc s l startLine markerLen) l s.tokens.length startLine s3) := by
  unfold listItem
  rw [hg]
  rfl

/-- `s3`: the state after the step over an empty item (first disjunct) or after the nested run; `lcur`: the first line as read again
    on closing -/
theorem listItem_result {ordered : Bool} {mc : Char} {inner : List BRule} {mn : Int} {endLine : Nat} {s : BState} {startLine markerLen : Nat}
    {s6 : BState} {nt pe : Bool} (h : listItem ordered mc inner mn endLine s startLine markerLen = .ok (s6, nt, pe)) :
    ∃ l s3 lcur, getL s startLine = .ok l ∧
      (s3 = { itemEnter ordered mc s l startLine markerLen with line := min ((itemEnter ordered mc s l startLine markerLen).line + 2) endLine } ∨
        blockTokenize inner mn (itemEnter ordered mc s l startLine markerLen) startLine endLine = .ok s3) ∧
      s6 = closeState mc (itemOpen ordered mc s l startLine markerLen) l s.tokens.length startLine s3 lcur := by
  cases hg : getL s startLine with
  | error e => rw [listItem, hg] at h; cases h
  | ok l =>
    rw [listItem_eq _ _ _ _ _ _ _ _ hg] at h
    cases hn : listNested inner mn endLine (itemEnter ordered mc s l startLine markerLen) startLine
        (decide ((l.body.drop markerLen).length ≤ (itemScan l markerLen).2)) with
    | error e => rw [hn] at h; cases h
    | ok s3 =>
      rw [hn] at h
      dsimp only at h
      rw [listClose_eq] at h
      have hnest : s3 = { itemEnter ordered mc s l startLine markerLen with
            line := min ((itemEnter ordered mc s l startLine markerLen).line + 2) endLine } ∨
          blockTokenize inner mn (itemEnter ordered mc s l startLine markerLen) startLine endLine = .ok s3 := by
        unfold listNested at hn
        split at hn
        · cases hn
        · cases hn; exact .inl rfl
        · exact .inr hn
      split at h
      · cases h
      · split at h
        · cases h
        · cases h; exact ⟨l, s3, _, rfl, hnest, rfl⟩

/-- the state the item loop of a list starts from -/
def listOpenState (s : BState) (ordered : Bool) (mc : Char) (mv startLine : Nat) : BState :=
  let s0 := s.pushFull (if ordered then "ordered_list_open" else "bullet_list_open") (if ordered then "ol" else "ul") 1
              (some (startLine, 0)) none "" (String.singleton mc) ""
  let s1 := if ordered && mv != 1
            then { s0 with tokens := s0.tokens.modify s.tokens.length (fun t => t.setAttrs [("start", .i mv)]) } else s0
  { s1 with parentType := "list" }

/-- the state a list returns, from the entry state and the result of the item loop -/
def listFinish (s : BState) (ordered : Bool) (mc : Char) (startLine : Nat) (st : ListSt) : BState :=
  let s4 := st.s.pushFull (if ordered then "ordered_list_close" else "bullet_list_close") (if ordered then "ol" else "ul") (-1)
              none none "" (String.singleton mc) ""
  let toks := s4.tokens.modify s.tokens.length (fun t => t.setMap (some (startLine, st.startLine)))
  let s5 : BState := { s4 with line := st.startLine, parentType := s.parentType, tokens := toks }
  if st.tight then { s5 with tokens := markTight s5.level s.tokens.length s5.tokens } else s5

def listOpenTok (s : BState) (ordered : Bool) (mc : Char) (mv startLine : Nat) : Tok :=
  let t := pushedTok s (if ordered then "ordered_list_open" else "bullet_list_open") (if ordered then "ol" else "ul") 1
              (some (startLine, 0)) none "" (String.singleton mc) ""
  if ordered && mv != 1 then t.setAttrs [("start", .i mv)] else t

theorem listRun_eq (codeOn ordered : Bool) (mc : Char) (mlen mv : Nat) (terms inner : List BRule) (mn : Int) (s : BState) (startLine endLine : Nat) :
    listRun codeOn ordered mc mlen mv terms inner mn s startLine endLine =
      (match listItems codeOn ordered mc terms inner mn endLine (endLine - startLine + 1)
          { s := listOpenState s ordered mc mv startLine, startLine := startLine, markerLen := mlen, tight := true, prevEmptyEnd := false } with
       | .error e => .error e
       | .ok st => .ok (true, listFinish s ordered mc startLine st)) := rfl

theorem listOpenState_eq (s : BState) (ordered : Bool) (mc : Char) (mv startLine : Nat) :
    listOpenState s ordered mc mv startLine =
      { s with parentType := "list", level := s.level + 1, tokens := s.tokens ++ [listOpenTok s ordered mc mv startLine] } := by
  unfold listOpenState listOpenTok
  dsimp only
  split
  · rw [pushFull_tokens, modify_append_len]; simp [BState.pushFull]
  · simp [BState.pushFull, pushedTok]

theorem listOpenState_tokens (s : BState) (ordered : Bool) (mc : Char) (mv startLine : Nat) :
    (listOpenState s ordered mc mv startLine).tokens = s.tokens ++ [listOpenTok s ordered mc mv startLine] := by
  rw [listOpenState_eq]

theorem listOpenTok_fields (s : BState) (ordered : Bool) (mc : Char) (mv startLine : Nat) :
    (listOpenTok s ordered mc mv startLine).nesting = 1 ∧ (listOpenTok s ordered mc mv startLine).level = s.level
      ∧ (listOpenTok s ordered mc mv startLine).type = (if ordered then "ordered_list_open" else "bullet_list_open") := by
  unfold listOpenTok
  by_cases h : (ordered && mv != 1) = true
  · simp only [if_pos h]; exact ⟨rfl, by simp [pushedTok, Tok.setAttrs, Tok.level], rfl⟩
  · simp only [if_neg h]; exact ⟨rfl, by simp [pushedTok, Tok.level], rfl⟩

/-- what the list rule keeps while it opens the list (the level one up) -/
def BState.FrameEq' (s s2 : BState) : Prop :=
  s2.lines = s.lines ∧ s2.lineMax = s.lineMax ∧ s2.listIndent = s.listIndent ∧ s2.blkIndent = s.blkIndent ∧ s2.level = s.level + 1
    ∧ s2.line = s.line

theorem BState.FrameEq'.lines {s s2 : BState} (h : s.FrameEq' s2) : s2.lines = s.lines := h.1
theorem BState.FrameEq'.lineMax {s s2 : BState} (h : s.FrameEq' s2) : s2.lineMax = s.lineMax := h.2.1
theorem BState.FrameEq'.listIndent {s s2 : BState} (h : s.FrameEq' s2) : s2.listIndent = s.listIndent := h.2.2.1
theorem BState.FrameEq'.blkIndent {s s2 : BState} (h : s.FrameEq' s2) : s2.blkIndent = s.blkIndent := h.2.2.2.1
theorem BState.FrameEq'.level {s s2 : BState} (h : s.FrameEq' s2) : s2.level = s.level + 1 := h.2.2.2.2.1

/-- the tokens: `C02.listFinish_tokens` -/
theorem listFinish_eq (s : BState) (ordered : Bool) (mc : Char) (sl : Nat) (st : ListSt) :
    listFinish s ordered mc sl st =
      { st.s with line := st.startLine, parentType := s.parentType, level := st.s.level - 1,
                  tokens := (listFinish s ordered mc sl st).tokens } := by
  unfold listFinish
  dsimp only
  split <;> simp [BState.pushFull]

theorem markTightGo_prefix (level : Int) (a : List Tok) : ∀ (f i : Nat) (b : List Tok),
    markTightGo level f (a.length + i) (a ++ b) = a ++ markTightGo level f i b := by
  intro f
  induction f with
  | zero => intro i b; rfl
  | succ m ih =>
    intro i b
    simp only [markTightGo]
    have c0 : (a.length + i + 2 < (a ++ b).length) = (i + 2 < b.length) := by
      simp only [List.length_append]; exact propext ⟨fun h => by omega, fun h => by omega⟩
    have e0 : (a ++ b)[a.length + i]? = b[i]? := by
      rw [List.getElem?_append_right (by omega)]; congr 1; omega
    simp only [c0, e0]
    split
    · cases hb : b[i]? with
      | none => rfl
      | some t =>
        simp only
        split
        · have e1 : a.length + i + 2 = a.length + (i + 2) := by omega
          have e3 : a.length + i + 3 = a.length + (i + 3) := by omega
          rw [e1, modify_append_right, modify_append_right, e3]
          exact ih _ _
        · have e1 : a.length + i + 1 = a.length + (i + 1) := by omega
          rw [e1]; exact ih _ _
    · rfl

theorem skipBullet_some (l : BLine) (n : Nat) (h : skipBullet l = some n) : 1 ≤ n ∧ n ≤ l.body.length := by
  unfold skipBullet at h
  split at h
  · cases h
  · rename_i m rest hb
    split at h
    · cases h
    · split at h
      · cases h; simp [hb]
      · split at h
        · cases h; simp [hb]
        · cases h

theorem ordLoop_some : ∀ (cs : List Char) (k n : Nat), ordLoop cs k = some n → k < n ∧ n ≤ k + cs.length := by
  intro cs
  induction cs with
  | nil => intro k n h; simp [ordLoop] at h
  | cons c rest ih =>
    intro k n h
    simp only [ordLoop] at h
    split at h
    · split at h
      · cases h
      · have := ih (k + 1) n h; simp only [List.length_cons]; omega
    · split at h
      · split at h
        · cases h; simp
        · split at h
          · cases h; simp
          · cases h
      · cases h

theorem skipOrdered_some (l : BLine) (n : Nat) (h : skipOrdered l = some n) : 1 ≤ n ∧ n ≤ l.body.length := by
  unfold skipOrdered at h
  split at h
  · cases h
  · split at h
    · cases h
    · rename_i ch rest hb
      split at h
      · cases h
      · have := ordLoop_some rest 1 n h
        simp only [hb, List.length_cons]; omega

/-- the list rule once the marker is known -/
def listTail (codeOn : Bool) (terms inner : List BRule) (mn : Int) (s : BState) (line endLine : Nat) (silent : Bool) (l : BLine)
    (ordered : Bool) (mlen : Nat) : Except PyErr (Bool × BState) :=
  let isTerminatingParagraph := silent && s.parentType == "paragraph" && decide (l.sCount ≥ s.blkIndent)
  let markerValue := digitsVal (l.body.take (mlen - 1))
  if ordered && isTerminatingParagraph && markerValue != 1 then .ok (false, s) else
  if isTerminatingParagraph && ((l.body.drop mlen).dropWhile isSpaceTab).isEmpty then .ok (false, s) else
  match l.body[mlen - 1]? with
  | none => .error .indexError
  | some markerChar =>
    if silent then .ok (true, s) else
    listRun codeOn ordered markerChar mlen markerValue terms inner mn s line endLine

/-- a marker that ends inside the line has a last character, so the rule's `src[posAfterMarker - 1]` does not raise -/
theorem listTail_cases (codeOn : Bool) (terms inner : List BRule) (mn : Int) (s : BState) (line endLine : Nat) (silent : Bool) (l : BLine)
    (ordered : Bool) {mlen : Nat} (h : 1 ≤ mlen ∧ mlen ≤ l.body.length) :
    listTail codeOn terms inner mn s line endLine silent l ordered mlen = .ok (false, s) ∨
    ∃ mc, listTail codeOn terms inner mn s line endLine silent l ordered mlen =
      if silent then .ok (true, s) else listRun codeOn ordered mc mlen (digitsVal (l.body.take (mlen - 1))) terms inner mn s line endLine := by
  obtain ⟨mc, hmc⟩ : ∃ c, l.body[mlen - 1]? = some c := by
    cases hq : l.body[mlen - 1]? with
    | none => rw [List.getElem?_eq_none_iff] at hq; omega
    | some c => exact ⟨c, rfl⟩
  simp only [listTail, hmc]
  split
  · exact .inl rfl
  · split
    · exact .inl rfl
    · exact .inr ⟨mc, rfl⟩

theorem ruleList_eq (codeOn : Bool) (terms inner : List BRule) (mn : Int) (s : BState) (line endLine : Nat) (silent : Bool) :
    ruleList codeOn terms inner mn s line endLine silent =
      (match getL s line with
       | .error e => .error e
       | .ok l =>
         if isCodeLine codeOn s l then .ok (false, s) else
         if s.listIndent ≥ 0 && decide (l.sCount - s.listIndent ≥ 4) && decide (l.sCount < s.blkIndent) then .ok (false, s) else
         match skipOrdered l with
         | some m => listTail codeOn terms inner mn s line endLine silent l true m
         | none =>
           match skipBullet l with
           | some m => listTail codeOn terms inner mn s line endLine silent l false m
           | none => .ok (false, s)) := by
  unfold ruleList listTail
  cases getL s line with
  | error e => rfl
  | ok l =>
    dsimp only
    cases skipOrdered l with
    | some m => rfl
    | none => cases skipBullet l <;> rfl

theorem ruleList_cases (codeOn : Bool) (terms inner : List BRule) (mn : Int) (s : BState) (line endLine : Nat) (silent : Bool) {l : BLine}
    (hg : getL s line = .ok l) :
    ruleList codeOn terms inner mn s line endLine silent = .ok (false, s) ∨
    ∃ ordered mc mlen, ruleList codeOn terms inner mn s line endLine silent =
      if silent then .ok (true, s) else listRun codeOn ordered mc mlen (digitsVal (l.body.take (mlen - 1))) terms inner mn s line endLine := by
  rw [ruleList_eq, hg]
  dsimp only
  split
  · exact .inl rfl
  · split
    · exact .inl rfl
    · cases ho : skipOrdered l with
      | some m => exact (listTail_cases codeOn terms inner mn s line endLine silent l true (skipOrdered_some l m ho)).imp id fun ⟨mc, h⟩ => ⟨_, mc, m, h⟩
      | none =>
        cases hb : skipBullet l with
        | some m => exact (listTail_cases codeOn terms inner mn s line endLine silent l false (skipBullet_some l m hb)).imp id fun ⟨mc, h⟩ => ⟨_, mc, m, h⟩
        | none => exact .inl rfl

end MdIt
