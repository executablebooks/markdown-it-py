import MdIt.Basic
import MdIt.Generated.Tables
import MdIt.Props.C01
import MdIt.Props.C01b
import MdIt.Props.C01c
import MdIt.Props.C01d
import MdIt.Props.C01e
import MdIt.Props.C01f
import MdIt.Props.C01g
import MdIt.Props.C01h
import MdIt.Props.C01i
import MdIt.Props.C01j
import MdIt.Props.C01k
import MdIt.Props.C01l
import MdIt.Props.C02
import MdIt.Props.C02b
import MdIt.Props.C02c
import MdIt.Props.C02d
import MdIt.Props.C02e
import MdIt.Props.C02f
import MdIt.Props.C02g
import MdIt.Props.C02h
import MdIt.Props.C02i
import MdIt.Props.C02j
import MdIt.Props.C02k
import MdIt.Props.C03
import MdIt.Props.C03b
import MdIt.Props.C03c
import MdIt.Props.C03d
import MdIt.Props.C03e
import MdIt.Props.C03f
import MdIt.Props.C03g
import MdIt.Props.C04
import MdIt.Props.C04c
import MdIt.Props.C04e
import MdIt.Props.C05
import MdIt.Props.C05c
import MdIt.Props.C05d
import MdIt.Props.C05e
import MdIt.Props.C05f
import MdIt.Props.C05g
import MdIt.Props.C06
import MdIt.Props.C06b
import MdIt.Props.C06c
import MdIt.Props.C06e
import MdIt.Props.C06g
import MdIt.Props.C06h
import MdIt.Props.C06i
import MdIt.Props.C07
import MdIt.Props.C07b
import MdIt.Props.C07c
import MdIt.Props.C08
import MdIt.Props.C08b
import MdIt.Props.C08c
import MdIt.Props.C08d
import MdIt.Props.C08e
import MdIt.Props.C08f
import MdIt.Props.C09
import MdIt.Props.C09b
import MdIt.Props.C09c
import MdIt.Props.C09d
import MdIt.Props.C10
import MdIt.Props.C10b
import MdIt.Props.C10e
import MdIt.Props.C10f
import MdIt.Props.C10g
import MdIt.Props.C10h
import MdIt.Props.C10i
import MdIt.Props.C10j
import MdIt.Props.C10l
import MdIt.Props.C10m
import MdIt.Props.C10n
import MdIt.Props.C10p
import MdIt.Props.C10q
import MdIt.Props.C11
import MdIt.Props.C12
import MdIt.Props.C13
import MdIt.Props.C14
import MdIt.Props.C15
import MdIt.Props.C15b
import MdIt.Props.C15c
import MdIt.Props.C16
import MdIt.Props.C16b
import MdIt.Props.C16c
import MdIt.Props.C16d
import MdIt.Props.C16e
import MdIt.Props.C17
import MdIt.Props.C17b
import MdIt.Props.C18
import MdIt.Props.C18b
import MdIt.Props.C19
import MdIt.Props.C20
